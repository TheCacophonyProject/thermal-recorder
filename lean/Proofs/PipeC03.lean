import Proofs.C01Spec
import Proofs.C03Spec
/-!
# Proofs.PipeC03 — the two views of a motion recording, linked

`C01Spec.recordings tr` lists every recording as the ids written to the motion sink (pre-trigger frames, then
the trigger frame, then the later frames); `C03Spec.recordingsOf tr` lists every recording as the motion bits
of its frames from the trigger frame on, with the way it ended.  Here the two are linked, for the trace of
the processor MODEL (nothing in this file speaks of the pipeline; `Props.PipeC03` carries the result over to
the motion files): both lists, and the list of trigger frames, are projections of ONE list of entries
`(lo, t, ms, e)` (`model_link`).

The proof folds the three lists from the left and keeps, along every event list, an entry list whose
projections the three accumulators ARE (`idAcc`, `bitAcc`, `trigAcc`) together with the invariant `EI`
between the entries and the model state.  Of one accepted frame the core (`P03.frame_summary`,
`P03.rbase_frame`) gives the two flags, `isRec` and the ring; what is added here is what the id accumulator
makes of its observations (`frame_fold`).

Around `model_link`, what `Props.PipeC03` reads off the entry list: a trigger frame number as a position in the trace
(`mem_triggersFrom`), the ids of an entry as a range about its trigger frame (`ids_eq`, `ids_trigger`, `ids_getLast`),
fewer than `K − 1` pre-trigger frames only at start-up or right after the previous recording (`tiled_short`), and the
lengths under the length rule (`entry_bounds`).
-/
namespace TR.PipeC03
open TR TR.C01Spec TR.C03Spec

/-- one recording, both views at once -/
structure Entry where
  lo : Nat          -- first id written (oldest pre-trigger frame)
  t : Nat           -- accepted-frame number (= id) of the trigger frame
  ms : List Bool    -- motion bits of the frames from the trigger frame on
  e : EndKind       -- how it ended

namespace Entry

/-- the ids written: `lo, …, t − 1` (pre-trigger), `t, …, t + ms.length − 1` -/
def ids (x : Entry) : List Nat := List.range' x.lo (x.t - x.lo + x.ms.length)

def view (x : Entry) : Recording := (x.ms, x.e)

/-- one past the last id written -/
def stop (x : Entry) : Nat := x.t + x.ms.length

/-- number of pre-trigger frames -/
def pre (x : Entry) : Nat := x.t - x.lo

/-- well-formed: at most `K − 1` pre-trigger frames, at least the trigger frame -/
def WF (K : Nat) (x : Entry) : Prop := x.lo ≤ x.t ∧ x.t < x.lo + K ∧ 1 ≤ x.ms.length

end Entry

/-- one past the last id of the last entry (`nf` if there is none) -/
def endOf : Nat → List Entry → Nat
  | nf, [] => nf
  | _, x :: xs => endOf x.stop xs

/-- every recording starts `K − 1` frames before its trigger frame, or right after the previous recording
(`nf`: one past the last id recorded before the list) when that is later -/
def Tiled (K : Nat) : Nat → List Entry → Prop
  | _, [] => True
  | nf, x :: xs => x.lo = max (x.t + 1 - K) nf ∧ Tiled K x.stop xs

theorem endOf_snoc (nf : Nat) (L : List Entry) (x : Entry) : endOf nf (L ++ [x]) = x.stop := by
  induction L generalizing nf with
  | nil => rfl
  | cons y ys ih => exact ih y.stop

theorem tiled_snoc (K nf : Nat) (L : List Entry) (x : Entry) :
    Tiled K nf (L ++ [x]) ↔ Tiled K nf L ∧ x.lo = max (x.t + 1 - K) (endOf nf L) := by
  induction L generalizing nf with
  | nil => simp [Tiled, endOf]
  | cons y ys ih =>
    simp only [List.cons_append, Tiled, endOf, ih y.stop]
    exact and_assoc.symm

theorem tiled_getElem (K : Nat) : ∀ (L : List Entry) (nf : Nat), Tiled K nf L →
    ∀ i (h : i < L.length), L[i].lo = max (L[i].t + 1 - K) (endOf nf (L.take i)) := by
  intro L
  induction L with
  | nil => intro nf _ i h; exact absurd h (Nat.not_lt_zero _)
  | cons x xs ih =>
    intro nf ht i h
    cases i with
    | zero => exact ht.1
    | succ i =>
      simp only [List.getElem_cons_succ, List.take_succ_cons, endOf]
      exact ih x.stop ht.2 i (Nat.lt_of_succ_lt_succ h)

theorem ids_length (x : Entry) : x.ids.length = x.pre + x.ms.length := by
  simp [Entry.ids, Entry.pre]

theorem ids_trigger (x : Entry) (h1 : x.lo ≤ x.t) (h2 : 1 ≤ x.ms.length) : x.ids[x.pre]? = some x.t := by
  unfold Entry.ids Entry.pre
  rw [List.getElem?_range' (by omega)]
  congr 1; omega

/-- accumulator of the left-fold form of `recordingsOf`: closed recordings, motion bits of the open one -/
structure OAcc where
  done : List Recording := []
  cur : Option (List Bool) := none

def OAcc.close (b : OAcc) (e : EndKind) : OAcc :=
  { done := b.done ++ (b.cur.map fun ms => (ms, e)).toList, cur := none }

/-- a frame event with motion bit `m`: a successful start supersedes the open recording and opens one with this
frame, otherwise the frame joins the open recording; then a stop closes it -/
def OAcc.frame (b : OAcc) (m started stopped : Bool) : OAcc :=
  let b1 : OAcc :=
    if started then { done := (b.close .byRestart).done, cur := some [m] } else { b with cur := b.cur.map (· ++ [m]) }
  if stopped then b1.close .byStop else b1

def OAcc.step (b : OAcc) (st : Step) : OAcc :=
  match st.ev with
  | .frame m _ => b.frame m (hasStartOk st.obs) (hasStop st.obs)
  | .bad _ => b.close .byBadOrReset
  | .reset _ => b.close .byBadOrReset
  | .testReq => b

def OAcc.all (b : OAcc) : List Recording := b.done ++ (b.cur.map fun ms => (ms, EndKind.stillOpen)).toList

theorem oacc_fold : ∀ (tr : List Step) (b : OAcc),
    (tr.foldl OAcc.step b).all =
      b.done ++ (b.cur.map fun ms => restOf ms tr).toList ++ recordingsOf tr := by
  intro tr
  induction tr with
  | nil =>
    intro b
    obtain ⟨d, cu⟩ := b
    cases cu <;> simp [OAcc.all, restOf, recordingsOf]
  | cons st rest ih =>
    intro b
    rw [List.foldl_cons, ih]
    obtain ⟨ev, obs⟩ := st
    obtain ⟨d, cu⟩ := b
    cases ev with
    | testReq => cases cu <;> simp [OAcc.step, restOf, recordingsOf]
    | bad f | reset f => cases cu <;> simp [OAcc.step, OAcc.close, restOf, recordingsOf]
    | frame m f =>
      cases hs : hasStartOk obs <;> cases hst : hasStop obs <;> cases cu <;>
        simp [OAcc.step, OAcc.frame, OAcc.close, restOf, recordingsOf, hs, hst]

theorem recordingsOf_eq_fold (tr : List Step) : recordingsOf tr = (tr.foldl OAcc.step {}).all := by
  rw [oacc_fold]; rfl

/-- the accepted-frame numbers (number of frame events before them, counted from `n`) of the frame events
that carry a successful `StartRecording` on the motion sink -/
def triggersFrom : Nat → List Step → List Nat
  | _, [] => []
  | n, st :: rest =>
    match st.ev with
    | .frame _ _ => if hasStartOk st.obs then n :: triggersFrom (n + 1) rest else triggersFrom (n + 1) rest
    | _ => triggersFrom n rest

/-- the trigger frames of a trace: for every recording of `recordingsOf`, the accepted-frame number of the
frame event that started it -/
def triggerFrames (tr : List Step) : List Nat := triggersFrom 0 tr

structure TAcc where
  n : Nat := 0
  ts : List Nat := []

def TAcc.frame (t : TAcc) (started : Bool) : TAcc := { n := t.n + 1, ts := if started then t.ts ++ [t.n] else t.ts }

def TAcc.step (t : TAcc) (st : Step) : TAcc :=
  match st.ev with
  | .frame _ _ => t.frame (hasStartOk st.obs)
  | _ => t

theorem tacc_fold : ∀ (tr : List Step) (t : TAcc),
    (tr.foldl TAcc.step t).ts = t.ts ++ triggersFrom t.n tr := by
  intro tr
  induction tr with
  | nil => intro t; simp [triggersFrom]
  | cons st rest ih =>
    intro t
    rw [List.foldl_cons, ih]
    obtain ⟨ev, obs⟩ := st
    cases ev with
    | frame m f => cases hs : hasStartOk obs <;> simp [TAcc.step, TAcc.frame, triggersFrom, hs]
    | bad f | reset f | testReq => rfl

theorem triggerFrames_eq_fold (tr : List Step) : triggerFrames tr = (tr.foldl TAcc.step {}).ts := by
  rw [tacc_fold]; rfl

theorem triggersFrom_length : ∀ (tr : List Step) (n : Nat), (triggersFrom n tr).length = (recordingsOf tr).length := by
  intro tr
  induction tr with
  | nil => intro n; rfl
  | cons st rest ih =>
    intro n
    obtain ⟨ev, obs⟩ := st
    cases ev with
    | frame m f => cases hs : hasStartOk obs <;> simp [triggersFrom, recordingsOf, hs, ih]
    | bad f | reset f | testReq => exact ih n

theorem triggersFrom_cons (n : Nat) (st : Step) (rest : List Step) :
    triggersFrom n (st :: rest) =
      (if startsRec st then [n] else []) ++ triggersFrom (n + (if st.ev.isFrame then 1 else 0)) rest := by
  obtain ⟨ev, obs⟩ := st
  cases ev with
  | frame m f => cases hs : hasStartOk obs <;> simp [triggersFrom, startsRec, Ev.isFrame, hs]
  | bad f | reset f | testReq => rfl

theorem mem_triggersFrom : ∀ (tr : List Step) (n t : Nat),
    t ∈ triggersFrom n tr ↔ ∃ pre st post, tr = pre ++ st :: post ∧ startsRec st = true ∧
      t = n + (pre.filter (·.ev.isFrame)).length := by
  intro tr
  induction tr with
  | nil =>
    intro n t
    simp [triggersFrom]
  | cons st rest ih =>
    intro n t
    rw [triggersFrom_cons, List.mem_append, ih]
    -- the split is at `st` itself (`pre = []`), or `st` joins the `pre` of a split of `rest`
    have hcount : ∀ pre : List Step, n + (if st.ev.isFrame then 1 else 0) + (pre.filter (·.ev.isFrame)).length =
        n + ((st :: pre).filter (·.ev.isFrame)).length := fun pre => by
      rw [List.filter_cons, Nat.add_assoc]
      cases st.ev.isFrame <;> simp <;> omega
    constructor
    · rintro (h | ⟨pre, s, post, h1, h2, h3⟩)
      · split at h
        · next hs => exact ⟨[], st, rest, rfl, hs, by rw [List.mem_singleton.mp h]; rfl⟩
        · cases h
      · exact ⟨st :: pre, s, post, by rw [h1]; rfl, h2, h3.trans (hcount pre)⟩
    · rintro ⟨pre, s, post, h1, h2, h3⟩
      cases pre with
      | nil =>
        obtain ⟨rfl, rfl⟩ := List.cons.inj h1
        exact .inl (by rw [if_pos h2, h3]; exact List.mem_singleton.mpr rfl)
      | cons p pre =>
        obtain ⟨rfl, rfl⟩ := List.cons.inj h1
        exact .inr ⟨pre, s, post, rfl, h2, h3.trans (hcount pre).symm⟩

/-- the id accumulator (`C01Spec.recordings`) that the closed entries `L` and the open entry `cur` stand for -/
def idAcc (L : List Entry) (cur : Option Entry) : RecAcc := { done := L.map Entry.ids, cur := cur.map Entry.ids }

/-- the motion-bit accumulator (`recordingsOf`) they stand for -/
def bitAcc (L : List Entry) (cur : Option Entry) : OAcc := { done := L.map Entry.view, cur := cur.map (·.ms) }

/-- the trigger-frame accumulator they stand for, `n` frames accepted -/
def trigAcc (n : Nat) (L : List Entry) (cur : Option Entry) : TAcc := { n := n, ts := (L ++ cur.toList).map (·.t) }

/-- the part of the invariant that speaks of the entries alone (`EI` adds the model state); the open entry is
the last one of `L ++ cur.toList` -/
structure Ents (K : Nat) (L : List Entry) (cur : Option Entry) : Prop where
  wf : ∀ x ∈ L ++ cur.toList, x.WF K
  tiled : Tiled K 0 (L ++ cur.toList)
  openKind : ∀ x, cur = some x → x.e = .stillOpen

/-- `WF` and `Tiled` read `lo`, `t` and `1 ≤ ms.length` of an entry only -/
theorem ents_last {K : Nat} {L : List Entry} {x y : Entry} (h : Ents K L (some x)) (h1 : y.lo = x.lo)
    (h2 : y.t = x.t) (h3 : 1 ≤ y.ms.length) :
    (∀ z ∈ L ++ [y], z.WF K) ∧ Tiled K 0 (L ++ [y]) := by
  have hw := h.wf; have ht := h.tiled
  simp only [Option.toList_some] at hw ht
  obtain ⟨w1, w2, _⟩ := hw x (by simp)
  refine ⟨fun z hz => ?_, (tiled_snoc K 0 L y).mpr ?_⟩
  · rcases List.mem_append.mp hz with hz | hz
    · exact hw z (List.mem_append_left _ hz)
    · rw [List.mem_singleton.mp hz]
      exact ⟨by rw [h1, h2]; exact w1, by rw [h1, h2]; exact w2, h3⟩
  · rw [h1, h2]; exact (tiled_snoc K 0 L x).mp ht

theorem Ents.start {K : Nat} {L : List Entry} (h : Ents K L none) {lo t : Nat} (m : Bool) (hlo : lo ≤ t)
    (hK : t < lo + K) (htile : lo = max (t + 1 - K) (endOf 0 L)) :
    Ents K L (some ⟨lo, t, [m], .stillOpen⟩) := by
  have hw := h.wf; have ht := h.tiled
  simp only [Option.toList_none, List.append_nil] at hw ht
  refine ⟨fun z hz => ?_, (tiled_snoc K 0 L _).mpr ⟨ht, htile⟩, fun x hx => (by cases hx; rfl)⟩
  rcases List.mem_append.mp hz with hz | hz
  · exact hw z hz
  · rw [List.mem_singleton.mp hz]; exact ⟨hlo, hK, Nat.le_refl _⟩

theorem Ents.extend {K : Nat} {L : List Entry} {x : Entry} (h : Ents K L (some x)) (m : Bool) :
    Ents K L (some { x with ms := x.ms ++ [m] }) := by
  obtain ⟨hw, ht⟩ := ents_last (y := { x with ms := x.ms ++ [m] }) h rfl rfl (by simp)
  exact ⟨hw, ht, fun y hy => (by cases hy; exact h.openKind x rfl)⟩

theorem Ents.close {K : Nat} {L : List Entry} {x : Entry} (h : Ents K L (some x)) (e : EndKind) :
    Ents K (L ++ [{ x with e := e }]) none := by
  obtain ⟨hw, ht⟩ := ents_last (y := { x with e := e }) h rfl rfl (h.wf x (by simp)).2.2
  exact ⟨by simpa using hw, by simpa using ht, fun y hy => (nomatch hy)⟩

theorem acc_writes : ∀ (ids : List Nat) (a : RecAcc) (r : List Nat), a.cur = some r →
    (ids.map P01.W).foldl RecAcc.obs a = { done := a.done, cur := some (r ++ ids) } := by
  intro ids
  induction ids with
  | nil =>
    intro a r h
    obtain ⟨d, cu⟩ := a
    simp only at h
    subst h
    simp
  | cons id rest ih =>
    intro a r h
    rw [List.map_cons, List.foldl_cons, acc_write_some a id true r h, ih _ (r ++ [id]) rfl]
    simp

theorem idAcc_start (L : List Entry) (lo t : Nat) (m : Bool) (e : EndKind) (h : lo ≤ t) :
    ((List.range' lo (t + 1 - lo)).map P01.W).foldl RecAcc.obs ((idAcc L none).obs (.call .motion .start true)) =
      idAcc L (some ⟨lo, t, [m], e⟩) := by
  rw [acc_start, acc_writes _ _ [] rfl]
  simp only [idAcc, RecAcc.all, Entry.ids, Option.map_none, Option.toList_none, List.append_nil, List.nil_append,
    Option.map_some, List.length_singleton, show t + 1 - lo = t - lo + 1 by omega]

theorem idAcc_extend (L : List Entry) (x : Entry) (m ok : Bool) (h : x.lo ≤ x.t) :
    (idAcc L (some x)).obs (.call .motion (.write x.stop) ok) = idAcc L (some { x with ms := x.ms ++ [m] }) := by
  rw [acc_write_some _ _ _ x.ids rfl]
  simp only [idAcc, Entry.ids, Entry.stop, Option.map_some, List.length_append, List.length_singleton,
    ← Nat.add_assoc, List.range'_concat, Nat.one_mul]
  congr 4; omega

theorem idAcc_close (L : List Entry) (x : Entry) (e : EndKind) (ok : Bool) :
    (idAcc L (some x)).obs (.call .motion .stop ok) = idAcc (L ++ [{ x with e := e }]) none := by
  rw [acc_stop]
  simp [idAcc, RecAcc.all, Entry.ids]

open TR.PState

/-- the id accumulator sees a `StopRecording` iff the recording was stopped -/
def closeIf (ok stopped : Bool) (a : RecAcc) : RecAcc := if stopped then a.obs (.call .motion .stop ok) else a

@[simp] theorem acc_rs (a : RecAcc) : a.obs .rs = a := rfl
@[simp] theorem acc_re (a : RecAcc) : a.obs .re = a := rfl

theorem acc_fold_off : ∀ (os : List Obs), os.all P01.offMotion = true →
    ∀ a : RecAcc, os.foldl RecAcc.obs a = a := by
  intro os
  induction os with
  | nil => intro _ a; rfl
  | cons o os ih =>
    intro h a
    simp only [List.all_cons, Bool.and_eq_true] at h
    obtain ⟨cl, ok, rfl | rfl⟩ := (P01.offMotion_iff o).mp h.1 <;>
      rw [List.foldl_cons, acc_quiet a _ (by cases cl <;> rfl)] <;> exact ih h.2 a

/-- a motion path that ends in `pStop`: the stop, if any, comes last -/
theorem fold_pStop (f : Faults) (r : R) (a : RecAcc) (h : hasStop r.2 = false) :
    (andThen r (pStop f)).2.foldl RecAcc.obs a =
      closeIf f.mStop (hasStop (andThen r (pStop f)).2) (r.2.foldl RecAcc.obs a) := by
  rw [andThen_snd, List.foldl_append, P03.hasStop_append, h, pStop_eq]
  cases stopsNow r.1 <;> rfl

/-- **what the id accumulator sees of one accepted frame** (no dictated write failure, `mark` the ring's
`SetAsOldest` mark): if a recording starts, the successful start and the writes `lo, …, n` of the retained
history; otherwise the write of `n` if a recording is open; last the stop, if the frame carries one -/
theorem frame_fold (c : PCfg) (s : PState) (m : Bool) (f : Faults) (mark : Nat) (hb : RBase c.K s.ring s.n mark)
    (hf : f.mWriteFail = 0) (a : RecAcc) :
    (PState.step c s (.frame m f)).2.foldl RecAcc.obs a =
      closeIf f.mStop (hasStop (PState.step c s (.frame m f)).2)
        (if hasStartOk (PState.step c s (.frame m f)).2 then
          ((List.range' (loOf c.K s.n mark) (s.n + 1 - loOf c.K s.n mark)).map P01.W).foldl RecAcc.obs
            (a.obs (.call .motion .start true))
         else if s.isRec then a.obs (P01.W s.n) else a) := by
  obtain ⟨fs1, _⟩ := P03.frame_summary c s m f
  obtain ⟨f1, _⟩ := step_frame_motion c s m f
  have hlo := loOf_le c.K s.n mark (rbase_size hb) (rbase_mark_le hb)
  have hw : ∀ k, wObs s.n k f = P01.W s.n := fun k => by simp [wObs, hf]
  rw [fs1, f1, step_frame, List.foldl_append, List.foldl_append,
    acc_fold_off _ (by rw [testObs]; exact P01.cycleObs_off (by decide) ..),
    acc_fold_off _ (by rw [constObs]; exact P01.cycleObs_off (by decide) ..)]
  rcases process_cases c (P03.pre s) m f with ⟨hr, e⟩ | ⟨hr, hs, q, hq, e⟩ | ⟨hr, _, hs, e⟩
  · have hr' : s.isRec = true := hr
    rw [show starts c (P03.pre s) m f = false by simp [starts, P03.attempt, hr'], hr', e,
      fold_pStop _ _ _ (by cases m <;> rfl)]
    cases m <;> simp [hw] <;> rfl
  · rw [hs, show s.isRec = false from hr, e]
    cases hq <;> rfl
  · have hq := preRun_quiet (P03.pre s) f
    rw [hs, e, fold_pStop _ _ _ (by simp [hq.1, P01.startPre]), List.append_assoc, P03.pre_n,
      P01.start_writes (s := P03.pre s) hf hlo (rbase_history hb)]
    rfl

/-- the model state between two events, against the entry list: the ring's `SetAsOldest` mark is one past the
last recorded id while idle; while recording, the next id to be written continues the open entry -/
structure EI (c : PCfg) (s : PState) (L : List Entry) (cur : Option Entry) : Prop extends Ents c.K L cur where
  ring : ∃ mark, RBase c.K s.ring s.n mark ∧ (cur = none → mark = endOf 0 L)
  isRec : s.isRec = cur.isSome
  nextId : ∀ x, cur = some x → x.stop = s.n

theorem ei_init (c : PCfg) (hK : 0 < c.K) : EI c (PState.init c) [] none :=
  ⟨⟨fun _ hx => (nomatch hx), trivial, fun _ hx => (nomatch hx)⟩, ⟨0, rbase_init c.K hK, fun _ => rfl⟩, rfl,
    fun _ hx => (nomatch hx)⟩

/-- the end of an event: the open recording is closed (end kind `e`) if `stopped`, and then the mark is moved
to `n`; `s'` is the state after the event -/
theorem ei_close (c : PCfg) (s' : PState) {L : List Entry} {cur : Option Entry} {mark n : Nat} (stopped ok : Bool)
    (e : EndKind) (h : Ents c.K L cur) (hnext : ∀ x, cur = some x → x.stop = n)
    (hmark : cur = none → mark = endOf 0 L) (hsp : stopped = true → cur.isSome = true)
    (hring : RBase c.K s'.ring s'.n (if stopped then n else mark)) (hn : s'.n = n)
    (hrec : s'.isRec = (cur.isSome && !stopped)) :
    ∃ L' cur', EI c s' L' cur' ∧ closeIf ok stopped (idAcc L cur) = idAcc L' cur' ∧
      (if stopped then (bitAcc L cur).close e else bitAcc L cur) = bitAcc L' cur' ∧
      trigAcc n L cur = trigAcc n L' cur' := by
  cases stopped with
  | false =>
    exact ⟨L, cur, ⟨h, ⟨mark, hring, hmark⟩, (by rw [hrec, Bool.not_false, Bool.and_true]),
      (by rw [hn]; exact hnext)⟩, rfl, rfl, rfl⟩
  | true =>
    obtain ⟨x, rfl⟩ := Option.isSome_iff_exists.mp (hsp rfl)
    refine ⟨L ++ [{ x with e := e }], none, ⟨h.close e, ⟨n, hring, fun _ => ?_⟩, (by rw [hrec]; rfl),
      fun _ hx => (nomatch hx)⟩, idAcc_close L x e ok, ?_, ?_⟩
    · rw [endOf_snoc]; exact (hnext x rfl).symm
    · simp [bitAcc, OAcc.close, Entry.view]
    · simp [trigAcc]

theorem ei_frame (c : PCfg) (s : PState) (m : Bool) (f : Faults) {L : List Entry} {cur : Option Entry}
    (hf : f.mWriteFail = 0) (h : EI c s L cur) :
    ∃ L' cur', EI c (PState.step c s (.frame m f)).1 L' cur' ∧
      (PState.step c s (.frame m f)).2.foldl RecAcc.obs (idAcc L cur) = idAcc L' cur' ∧
      (bitAcc L cur).step ⟨.frame m f, (PState.step c s (.frame m f)).2⟩ = bitAcc L' cur' ∧
      (trigAcc s.n L cur).step ⟨.frame m f, (PState.step c s (.frame m f)).2⟩ =
        trigAcc (PState.step c s (.frame m f)).1.n L' cur' := by
  obtain ⟨mark, hb, hmark⟩ := h.ring
  have hlo : loOf c.K s.n mark ≤ s.n := loOf_le c.K s.n mark (rbase_size hb) (rbase_mark_le hb)
  -- the step, as far as the core says it: the two flags, whether a recording is open afterwards, the ring
  obtain ⟨fs1, fs2, _⟩ := P03.frame_summary c s m f
  have hn : (PState.step c s (.frame m f)).1.n = s.n + 1 := step_n c s (.frame m f)
  have hring : RBase c.K (PState.step c s (.frame m f)).1.ring (PState.step c s (.frame m f)).1.n
      (if hasStop (PState.step c s (.frame m f)).2 then s.n + 1 else mark) := by
    rw [hn]; exact P03.rbase_frame m f hb
  have hrec := model_frame_isRec c s m f
  have hst : hasStartOk (PState.step c s (.frame m f)).2 = true → s.isRec = false :=
    fun hs => (model_start c s m f hs).2
  have hsp : hasStop (PState.step c s (.frame m f)).2 = true →
      (s.isRec || hasStartOk (PState.step c s (.frame m f)).2) = true := by
    intro hs
    rw [fs2] at hs
    rw [fs1]
    exact (Bool.and_eq_true_iff.mp hs).1
  rw [frame_fold c s m f mark hb hf]
  show ∃ L' cur', _ ∧ _ ∧
    (bitAcc L cur).frame m (hasStartOk (PState.step c s (.frame m f)).2)
      (hasStop (PState.step c s (.frame m f)).2) = _ ∧
    (trigAcc s.n L cur).frame (hasStartOk (PState.step c s (.frame m f)).2) = _
  generalize hasStartOk (PState.step c s (.frame m f)).2 = started at *
  generalize hasStop (PState.step c s (.frame m f)).2 = stopped at *
  generalize PState.step c s (.frame m f) = r at *
  -- the frame is written: to a recording that starts with it, to the open one, or not at all
  have mid : ∃ cur1, Ents c.K L cur1 ∧ (∀ x, cur1 = some x → x.stop = s.n + 1) ∧
      (cur1 = none → mark = endOf 0 L) ∧ cur1.isSome = (s.isRec || started) ∧
      (if started then ((List.range' (loOf c.K s.n mark) (s.n + 1 - loOf c.K s.n mark)).map P01.W).foldl RecAcc.obs
          ((idAcc L cur).obs (.call .motion .start true))
        else if s.isRec then (idAcc L cur).obs (P01.W s.n) else idAcc L cur) = idAcc L cur1 ∧
      (bitAcc L cur).frame m started false = bitAcc L cur1 ∧
      (trigAcc s.n L cur).frame started = trigAcc (s.n + 1) L cur1 := by
    cases hcur : cur with
    | none =>
      subst hcur
      have hidle : s.isRec = false := h.isRec
      cases started with
      | false =>
        exact ⟨none, h.toEnts, fun _ hx => (nomatch hx), hmark, (by rw [hidle]; rfl), (by rw [hidle]; rfl), rfl, rfl⟩
      | true =>
        refine ⟨some ⟨loOf c.K s.n mark, s.n, [m], .stillOpen⟩,
          h.toEnts.start m hlo (by unfold loOf; omega) (by rw [← hmark rfl]; exact Nat.max_comm _ _),
          fun _ hx => (by cases hx; rfl), fun hx => (nomatch hx), (by rw [hidle]; rfl),
          idAcc_start L _ _ m _ hlo, (by simp [bitAcc, OAcc.frame, OAcc.close]), (by simp [trigAcc, TAcc.frame])⟩
    | some x =>
      subst hcur
      have hisrec : s.isRec = true := h.isRec
      have hns : started = false := Bool.eq_false_iff.mpr fun hs => Bool.noConfusion ((hst hs).symm.trans hisrec)
      subst hns
      have hnx : x.stop = s.n := h.nextId x rfl
      refine ⟨some { x with ms := x.ms ++ [m] }, h.toEnts.extend m, fun _ hx => ?_, fun hx => (nomatch hx),
        (by rw [hisrec]; rfl), ?_, rfl, (by simp [trigAcc, TAcc.frame])⟩
      · cases hx
        show x.t + (x.ms ++ [m]).length = s.n + 1
        rw [← hnx, List.length_append]; rfl
      · rw [hisrec, ← hnx]
        exact idAcc_extend L x m true (h.wf x (by simp)).1
  obtain ⟨cur1, hents, hnext, hmark1, hsome, e1, e2, e3⟩ := mid
  obtain ⟨L', cur', hei, k1, k2, k3⟩ := ei_close c r.1 stopped f.mStop .byStop hents hnext hmark1
    (fun hs => by rw [hsome]; exact hsp hs) hring hn (by rw [hrec, hsome])
  rw [e1, e3, hn]
  refine ⟨L', cur', hei, k1, ?_, k3⟩
  rw [← k2, ← e2]
  cases stopped <;> rfl

/-- `stopRecording` (rejected frame, reset): the open recording, if any, is closed with end kind `byBadOrReset` -/
theorem ei_stop (c : PCfg) (s : PState) {L : List Entry} {cur : Option Entry} (ok : Bool) (h : EI c s L cur) :
    ∃ L' cur', EI c (s.stopRecording ok).1 L' cur' ∧
      (s.stopRecording ok).2.foldl RecAcc.obs (idAcc L cur) = idAcc L' cur' ∧
      (bitAcc L cur).close .byBadOrReset = bitAcc L' cur' ∧
      trigAcc s.n L cur = trigAcc s.n L' cur' := by
  obtain ⟨mark, hb, hmark⟩ := h.ring
  cases hr : s.isRec
  · rw [stopRecording_idle hr]
    have hc : cur = none := by cases cur <;> first | rfl | exact absurd (hr.symm.trans h.isRec) (by simp)
    exact ⟨L, cur, h, rfl, by subst hc; simp [bitAcc, OAcc.close], rfl⟩
  · rw [stopRecording_rec hr]
    exact ei_close c _ true ok .byBadOrReset h.toEnts h.nextId hmark (fun _ => by rw [← h.isRec]; exact hr)
      (rbase_mark hb) rfl (by rw [Bool.not_true, Bool.and_false])

theorem ei_step (c : PCfg) (s : PState) (e : Ev) {L : List Entry} {cur : Option Entry}
    (hf : e.faults.mWriteFail = 0) (h : EI c s L cur) :
    ∃ L' cur', EI c (PState.step c s e).1 L' cur' ∧
      (PState.step c s e).2.foldl RecAcc.obs (idAcc L cur) = idAcc L' cur' ∧
      (bitAcc L cur).step ⟨e, (PState.step c s e).2⟩ = bitAcc L' cur' ∧
      (trigAcc s.n L cur).step ⟨e, (PState.step c s e).2⟩ = trigAcc (PState.step c s e).1.n L' cur' := by
  cases e with
  | frame m f => exact ei_frame c s m f hf h
  | testReq => exact ⟨L, cur, ⟨h.toEnts, h.ring, h.isRec, h.nextId⟩, rfl, rfl, rfl⟩
  | reset f =>
    obtain ⟨L', cur', hei, k1, k2, k3⟩ := ei_stop c s f.mStop h
    exact ⟨L', cur', hei, k1, k2, by rw [step_n]; exact k3⟩
  | bad f =>
    obtain ⟨mark, hb, hmark⟩ := h.ring
    obtain ⟨L', cur', hei, k1, k2, k3⟩ := ei_stop c { s with ring := s.ring.write garbage } f.mStop
      ⟨h.toEnts, ⟨mark, rbase_write garbage hb, hmark⟩, h.isRec, h.nextId⟩
    refine ⟨L', cur', ?_, ?_, k2, by rw [step_n]; exact k3⟩
    -- closing the continuous file shows neither in the recording fields nor in the id accumulator
    · show EI c (stopConstantRecorder c _ f).1 L' cur'
      rw [stopConstantRecorder_eq]
      exact ⟨hei.toEnts, hei.ring, hei.isRec, hei.nextId⟩
    · show (processBad c s f).2.foldl RecAcc.obs _ = _
      rw [processBad, andThen_snd, List.foldl_append, k1, stopConstantRecorder_eq]
      cases c.constOn <;> rfl

theorem ei_trace (c : PCfg) : ∀ (evs : List Ev) (s : PState) (L : List Entry) (cur : Option Entry),
    (∀ ev ∈ evs, ev.faults.mWriteFail = 0) → EI c s L cur →
    ∃ L' cur', EI c (PState.after c s evs) L' cur' ∧
      (PState.trace c s evs).foldl (fun a st => st.obs.foldl RecAcc.obs a) (idAcc L cur) = idAcc L' cur' ∧
      (PState.trace c s evs).foldl OAcc.step (bitAcc L cur) = bitAcc L' cur' ∧
      (PState.trace c s evs).foldl TAcc.step (trigAcc s.n L cur) = trigAcc (PState.after c s evs).n L' cur' := by
  intro evs
  induction evs with
  | nil => intro s L cur _ h; exact ⟨L, cur, h, rfl, rfl, rfl⟩
  | cons e es ih =>
    intro s L cur hw h
    obtain ⟨L1, cur1, h1, a1, b1, t1⟩ := ei_step c s e (hw e (List.mem_cons_self ..)) h
    simp only [PState.after, PState.trace, List.foldl_cons]
    rw [a1, b1, t1]
    exact ih _ L1 cur1 (fun ev hev => hw ev (List.mem_cons_of_mem _ hev)) h1

/-- **The two views of the model's recordings, linked.**  For every configuration with `K ≥ 1`, every event
list and every fault placement except failing motion-sink writes there is one entry list `L` whose three
projections are `recordings tr` (ids), `recordingsOf tr` (motion bits, end kind) and `triggerFrames tr`; every
entry has `lo ≤ t < lo + K` and at least its trigger frame; and `lo = max (t + 1 − K) nf` with `nf` one past
the last id of the previous entry (0 for the first). -/
theorem model_link (c : PCfg) (hK : 0 < c.K) (evs : List Ev) (hw : ∀ ev ∈ evs, ev.faults.mWriteFail = 0) :
    ∃ L : List Entry,
      recordings (PState.trace c (PState.init c) evs) = L.map Entry.ids ∧
      recordingsOf (PState.trace c (PState.init c) evs) = L.map Entry.view ∧
      triggerFrames (PState.trace c (PState.init c) evs) = L.map (·.t) ∧
      (∀ x ∈ L, x.WF c.K) ∧ Tiled c.K 0 L := by
  obtain ⟨L, cur, h, e1, e2, e3⟩ := ei_trace c evs (PState.init c) [] none hw (ei_init c hK)
  refine ⟨L ++ cur.toList, ?_, ?_, ?_, h.wf, h.tiled⟩
  · rw [recordings, recAcc_eq]
    show RecAcc.all (List.foldl _ (idAcc [] none) _) = _
    rw [e1]
    cases cur <;> simp [idAcc, RecAcc.all]
  · rw [recordingsOf_eq_fold]
    show OAcc.all (List.foldl _ (bitAcc [] none) _) = _
    rw [e2]
    cases hc : cur with
    | none => simp [bitAcc, OAcc.all]
    | some x => simp [bitAcc, OAcc.all, Entry.view, h.openKind x hc]
  · rw [triggerFrames_eq_fold]
    show TAcc.ts (List.foldl _ (trigAcc (PState.init c).n [] none) _) = _
    rw [e3]
    rfl

theorem ids_eq (x : Entry) (h1 : x.lo ≤ x.t) : x.ids = List.range' (x.t - x.pre) (x.pre + x.ms.length) := by
  unfold Entry.ids Entry.pre
  congr 1; omega

theorem ids_head (x : Entry) (h2 : 1 ≤ x.ms.length) : x.ids.head? = some x.lo := by
  unfold Entry.ids
  rw [List.head?_range', if_neg (by omega)]

theorem ids_getLast (x : Entry) (h1 : x.lo ≤ x.t) (h2 : 1 ≤ x.ms.length) : x.ids.getLast? = some (x.stop - 1) := by
  unfold Entry.ids Entry.stop
  rw [List.getLast?_range', if_neg (by omega)]
  congr 1; omega

/-- fewer than `K − 1` pre-trigger frames only for a recording that begins with frame 0 (start-up) or right
after the previous recording -/
theorem tiled_short (K : Nat) (L : List Entry) (ht : Tiled K 0 L) (hwf : ∀ x ∈ L, x.WF K) (i : Nat)
    (h : i < L.length) (hshort : L[i].pre < K - 1) :
    (i = 0 ∧ L[i].lo = 0) ∨ (∃ j, ∃ hj : j < L.length, i = j + 1 ∧ L[i].lo = L[j].stop) := by
  have hlo := tiled_getElem K L 0 ht i h
  have hw := hwf L[i] (List.getElem_mem h)
  unfold Entry.WF at hw
  unfold Entry.pre at hshort
  cases i with
  | zero =>
    simp only [List.take_zero, endOf] at hlo
    exact Or.inl ⟨rfl, by omega⟩
  | succ j =>
    have hj : j < L.length := by omega
    have e : endOf 0 (L.take (j + 1)) = L[j].stop := by
      rw [← List.take_append_getElem hj, endOf_snoc]
    rw [e] at hlo
    exact Or.inr ⟨j, hj, rfl, by omega⟩

/-- **length and extent of one recording under the length rule** (`LengthRuleRec` of `Proofs.C03Spec`):
`pre ≤ K − 1` frames before the trigger frame, then `ms.length` frames — exactly
`max 1 (min maxF (L − 1 + minF))` if it was stopped by the length rule, fewer otherwise -/
theorem entry_bounds (K minF maxF : Nat) (x : Entry) (hwf : x.WF K) (hr : LengthRuleRec minF maxF x.view) :
    x.ids.length = x.pre + x.ms.length ∧ x.pre ≤ K - 1 ∧
    1 ≤ x.ms.length ∧ x.ms.length ≤ max 1 maxF ∧
    (x.e = .byStop → x.ms.length = max 1 (min maxF (lastMotion x.ms - 1 + minF))) ∧
    (x.e ≠ .byStop → x.ms.length < min maxF (lastMotion x.ms - 1 + minF)) := by
  obtain ⟨w1, w2, w3⟩ := hwf
  refine ⟨ids_length x, by unfold Entry.pre; omega, w3, rec_length_le minF maxF _ hr, ?_, ?_⟩
  · intro he
    have hr' : LengthRuleRec minF maxF (x.ms, .byStop) := by rw [← he]; exact hr
    exact rec_stop_length_eq minF maxF x.ms w3 hr'
  · intro he
    exact rec_other_length_lt minF maxF x.ms x.e he w3 hr

end TR.PipeC03
