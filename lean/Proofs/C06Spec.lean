import TR.ThrMon
import Proofs.Scan
/-!
# Proofs.C06Spec — what acceptance by the C06 monitor (`monC06`) and by the throttle's C11 monitor
(`monC11Thr`) means, as plain statements about the trace

`monC06 minLen` (`TR.ThrMon`) folds the state machine `M6.step` over a trace of throttle steps; `monC11Thr`
folds `M11.step`.  Here both are characterised, for EVERY trace, by statements that do not mention them.

`fold_fails`: `monC06` accepts iff four scans (`scanAll`, `Proofs.Scan`) and one check of every step by itself
(`tr.all evOk`) hold; the `…_iff` lemmas: each of the five is one of the five statements of `C06Spec`
(`monC06_iff` in `Props.C06Spec` puts them together).  `m11_fold`, `freshTags_iff`: the
same for `monC11Thr` and `FreshTags`.
-/
namespace TR.C06Spec

/-- a call on the base recorder (not the `throttled` event, not the value returned upstream) -/
def isBase : TObs → Bool
  | .bStart _ _ => true
  | .bWrite _ _ => true
  | .bStop _ => true
  | _ => false

/-- the base-recorder calls among some observations, in order -/
def baseOf (obs : List TObs) : List TObs := obs.filter isBase

/-- all base-recorder calls of a trace, in order -/
def baseCalls (tr : List TStep) : List TObs := tr.flatMap fun s => baseOf s.obs

/-- the effect of one observation on "a base file is open": a successful `bStart` opens, a `bStop` closes
whatever its outcome, everything else (failed `bStart`, `bWrite`, `throttled`, `ret`) changes nothing -/
def nextOpen (o : Bool) : TObs → Bool
  | .bStart _ true => true
  | .bStop _ => false
  | _ => o

/-- "a base file is open after these calls": initially none is; see `baseOpenAfter_iff` -/
def baseOpenAfter (cs : List TObs) : Bool := cs.foldl nextOpen false

/-- the effect of one observation on "frames in the current file": a successful `bStart` resets the count,
a `bWrite` (successful or not) adds one -/
def nextCount (n : Nat) : TObs → Nat
  | .bStart _ true => 0
  | .bWrite _ _ => n + 1
  | _ => n

/-- the number of `bWrite`s since the last successful `bStart` (all of them if there is none); see
`framesInFile_spec` -/
def framesInFile (cs : List TObs) : Nat := cs.foldl nextCount 0

/-- the number of `bWrite`s in a list of observations -/
def writeCount (cs : List TObs) : Nat :=
  (cs.filter fun o => match o with | .bWrite _ _ => true | _ => false).length

/-- pairing, position by position, of a sequence of base calls -/
def PairedCalls (cs : List TObs) : Prop :=
  ∀ i (h : i < cs.length), match cs[i] with
    | .bWrite _ _ => baseOpenAfter (cs.take i) = true    -- a write (successful or not) only into an open file
    | .bStop _ => baseOpenAfter (cs.take i) = true       -- a stop (successful or not) only of an open file
    | .bStart _ _ => baseOpenAfter (cs.take i) = false   -- no start (attempt) while a file is open
    | _ => True

/-- **pairing**: the storage layer sees properly paired start / write / stop calls -/
def BasePaired (tr : List TStep) : Prop := PairedCalls (baseCalls tr)

def isWriteReq : TReq → Bool
  | .write .. => true
  | _ => false

/-- **clean cuts**: whenever a `bStop` is observed during a `.write` request (position `j` of step `i`), the
file being closed has received at least `minLen` frames: at least `minLen` `bWrite`s since the last
successful `bStart` among the base calls made before that `bStop` -/
def CutsLongEnough (minLen : Nat) (tr : List TStep) : Prop :=
  ∀ i (h : i < tr.length), isWriteReq tr[i].req = true →
    ∀ j (hj : j < tr[i].obs.length), (∃ ok, tr[i].obs[j] = TObs.bStop ok) →
      minLen ≤ framesInFile (baseCalls (tr.take i) ++ baseOf (tr[i].obs.take j))

/-- a start request during which no `bStart` is attempted -/
def SuppressedStart (s : TStep) : Prop :=
  (∃ t tag ok, s.req = TReq.start t tag ok) ∧ ∀ tag ok, TObs.bStart tag ok ∉ s.obs

/-- a write request during which the base file is stopped -/
def Cut (s : TStep) : Prop :=
  (∃ t id a b c, s.req = TReq.write t id a b c) ∧ ∃ ok, TObs.bStop ok ∈ s.obs

/-- **events**: exactly one `throttled` per suppressed start or cut, none in any other step -/
def EventsExact (tr : List TStep) : Prop :=
  ∀ s ∈ tr, ((SuppressedStart s ∨ Cut s) → s.obs.count TObs.throttled = 1) ∧
            (¬ (SuppressedStart s ∨ Cut s) → s.obs.count TObs.throttled = 0)

/-- what a transparent wrapper does with a request: forward it, return the result -/
def forwarded : TReq → List TObs
  | .start _ tag ok => [TObs.bStart tag ok, TObs.ret ok]
  | .write _ id _ wok _ => [TObs.bWrite id wok, TObs.ret wok]
  | .stop ok => [TObs.bStop ok, TObs.ret ok]

/-- **transparency**: as long as no step up to and including step `i` emits `throttled`, step `i` is the
forwarded call and its result, nothing else -/
def TransparentUntilThrottled (tr : List TStep) : Prop :=
  ∀ i (h : i < tr.length), (∀ s ∈ tr.take (i + 1), TObs.throttled ∉ s.obs) → tr[i].obs = forwarded tr[i].req

/-- **stops**: a `.stop` request forwards a `bStop` iff a base file is open before it -/
def StopForwarding (tr : List TStep) : Prop :=
  ∀ i (h : i < tr.length), (∃ ok, tr[i].req = TReq.stop ok) →
    ((∃ ok, TObs.bStop ok ∈ tr[i].obs) ↔ baseOpenAfter (baseCalls (tr.take i)) = true)

/-- the plain reading of C06 -/
def C06Spec (minLen : Nat) (tr : List TStep) : Prop :=
  BasePaired tr ∧ CutsLongEnough minLen tr ∧ EventsExact tr ∧ TransparentUntilThrottled tr ∧ StopForwarding tr

def NoStop (cs : List TObs) : Prop := ∀ ok, TObs.bStop ok ∉ cs

def NoStartOk (cs : List TObs) : Prop := ∀ tag, TObs.bStart tag true ∉ cs

theorem framesInFile_snoc (cs : List TObs) (c : TObs) :
    framesInFile (cs ++ [c]) = nextCount (framesInFile cs) c := by
  simp only [framesInFile, List.foldl_append, List.foldl_cons, List.foldl_nil]

def startsFile : TObs → Bool
  | .bStart _ true => true
  | _ => false

def stopsFile : TObs → Bool
  | .bStop _ => true
  | _ => false

theorem nextOpen_eq (o : Bool) (c : TObs) : nextOpen o c = ((o || startsFile c) && !stopsFile c) := by
  cases c with
  | bStart tag ok => cases ok <;> cases o <;> rfl
  | _ => cases o <;> rfl

theorem startsFile_iff (c : TObs) : startsFile c = true ↔ ∃ tag, c = .bStart tag true := by
  cases c with
  | bStart tag ok => cases ok <;> simp [startsFile]
  | _ => simp [startsFile]

theorem noStop_iff (cs : List TObs) : NoStop cs ↔ ∀ x ∈ cs, stopsFile x = false :=
  ⟨fun h x hx => by cases x <;> first | rfl | exact absurd hx (h _),
   fun h ok hm => Bool.noConfusion (h _ hm)⟩

theorem noStartOk_iff (cs : List TObs) : NoStartOk cs ↔ ∀ x ∈ cs, startsFile x = false :=
  ⟨fun h x hx => by
    cases hs : startsFile x
    · rfl
    · obtain ⟨tag, rfl⟩ := (startsFile_iff x).mp hs; exact absurd hx (h tag),
   fun h tag hm => Bool.noConfusion (h _ hm)⟩

theorem baseOpenAfter_iff (cs : List TObs) :
    baseOpenAfter cs = true ↔ ∃ pre tag post, cs = pre ++ TObs.bStart tag true :: post ∧ NoStop post := by
  rw [baseOpenAfter, latch_false_iff nextOpen startsFile stopsFile nextOpen_eq]
  constructor
  · rintro ⟨pre, st, post, he, hs, hn⟩
    obtain ⟨tag, rfl⟩ := (startsFile_iff st).mp hs
    exact ⟨pre, tag, post, he, (noStop_iff post).mpr fun x hx => hn x (List.mem_cons_of_mem _ hx)⟩
  · rintro ⟨pre, tag, post, he, hn⟩
    exact ⟨pre, _, post, he, rfl, List.forall_mem_cons.mpr ⟨rfl, (noStop_iff post).mp hn⟩⟩

theorem writeCount_cons (c : TObs) (cs : List TObs) : writeCount (c :: cs) = writeCount [c] + writeCount cs := by
  rw [writeCount, writeCount, writeCount, ← List.length_append, ← List.filter_append]
  rfl

theorem nextCount_eq (n : Nat) (c : TObs) :
    nextCount n c = if startsFile c = true then 0 else n + writeCount [c] := by
  cases c with
  | bStart tag ok => cases ok <;> rfl
  | _ => rfl

theorem foldl_nextCount_noStart : ∀ (cs : List TObs) (n : Nat), NoStartOk cs →
    cs.foldl nextCount n = n + writeCount cs := by
  intro cs
  induction cs with
  | nil => intro n _; rfl
  | cons c cs ih =>
    intro n h
    obtain ⟨hc, hn⟩ := List.forall_mem_cons.mp ((noStartOk_iff _).mp h)
    rw [List.foldl_cons, nextCount_eq, hc, if_neg Bool.false_ne_true, ih _ ((noStartOk_iff _).mpr hn),
      writeCount_cons c cs, Nat.add_assoc]

theorem framesInFile_spec (cs : List TObs) :
    (∀ pre tag post, cs = pre ++ TObs.bStart tag true :: post → NoStartOk post →
      framesInFile cs = writeCount post) ∧
    (NoStartOk cs → framesInFile cs = writeCount cs) := by
  constructor
  · intro pre tag post he hn
    rw [he, framesInFile, List.foldl_append, List.foldl_cons]
    show post.foldl nextCount 0 = _
    rw [foldl_nextCount_noStart post 0 hn, Nat.zero_add]
  · intro hn
    rw [framesInFile, foldl_nextCount_noStart cs 0 hn, Nat.zero_add]

/-- may this base call be made when a file is / is not open? -/
def okWhen (o : Bool) : TObs → Bool
  | .bStart _ _ => !o
  | .bWrite _ _ => o
  | .bStop _ => o
  | _ => true

/-- a `bStop` (inside a write request) needs `minLen` frames in the file -/
def cutOk (minLen n : Nat) : TObs → Bool
  | .bStop _ => decide (minLen ≤ n)
  | _ => true

theorem obs_open (minLen : Nat) (w : Bool) (m : M6) (o : TObs) :
    (M6.obs minLen w m o).baseOpen = nextOpen m.baseOpen o := by
  cases o with
  | bStart tag ok => cases ok <;> simp [M6.obs, nextOpen]
  | _ => rfl

theorem obs_since (minLen : Nat) (w : Bool) (m : M6) (o : TObs) :
    (M6.obs minLen w m o).sinceStart = nextCount m.sinceStart o := by
  cases o with
  | bStart tag ok => cases ok <;> simp [M6.obs, nextCount]
  | _ => rfl

theorem obs_fails (minLen : Nat) (w : Bool) (m : M6) (o : TObs) :
    (M6.obs minLen w m o).fails = [] ↔
      m.fails = [] ∧ okWhen m.baseOpen o = true ∧ (w = true → cutOk minLen m.sinceStart o = true) := by
  cases o with
  | bStart tag ok | bWrite id ok =>
    simp only [M6.obs, okWhen, cutOk]
    cases m.baseOpen <;> simp
  | bStop ok =>
    simp only [M6.obs, okWhen, cutOk]
    cases m.baseOpen <;> cases w <;> simp [Nat.not_lt]
  | _ => simp [M6.obs, okWhen, cutOk]

theorem foldObs_fails (minLen : Nat) (w : Bool) : ∀ (obs : List TObs) (m : M6),
    (obs.foldl (M6.obs minLen w) m).fails = [] ↔
      m.fails = [] ∧ scanAll nextOpen okWhen m.baseOpen obs = true ∧
        (w = true → scanAll nextCount (cutOk minLen) m.sinceStart obs = true) := by
  intro obs
  induction obs with
  | nil =>
    intro m
    constructor
    · intro h; exact ⟨h, rfl, fun _ => rfl⟩
    · intro h; exact h.1
  | cons o obs ih =>
    intro m
    rw [List.foldl_cons, ih, obs_fails, obs_open, obs_since]
    simp only [scanAll, Bool.and_eq_true]
    constructor
    · rintro ⟨⟨h1, h2, h3⟩, h4, h5⟩
      exact ⟨h1, ⟨h2, h4⟩, fun hw => ⟨h3 hw, h5 hw⟩⟩
    · rintro ⟨h1, ⟨h2, h4⟩, h35⟩
      exact ⟨⟨h1, h2, fun hw => (h35 hw).1⟩, h4, fun hw => (h35 hw).2⟩

/-- the number of `throttled` events the monitor expects in a step -/
def expectEv (s : TStep) : Nat :=
  match s.req with
  | .start .. => if hasBStart s.obs then 0 else 1
  | .write .. => if hasBStop s.obs then 1 else 0
  | .stop _ => 0

/-- `EventsExact` at one step (`evOk_iff`) -/
def evOk (s : TStep) : Bool := countThrottled s.obs == expectEv s

/-- the step emits `throttled` (`hasThr_iff`) -/
def hasThr (s : TStep) : Bool := decide (countThrottled s.obs > 0)

/-- `TransparentUntilThrottled` at one step, `thr`: some earlier step emitted `throttled` (`transpOk_iff`) -/
def transpOk (thr : Bool) (s : TStep) : Bool := thr || hasThr s || s.obs == forwarded s.req

/-- `StopForwarding` at one step, `o`: a base file is open before it (`stopOk_iff`) -/
def stopOk (o : Bool) (s : TStep) : Bool :=
  match s.req with
  | .stop _ => hasBStop s.obs == o
  | _ => true

/-- `CutsLongEnough` at one step, `n`: the frames in the file before it (`cutsOk_iff`) -/
def cutsOk (minLen n : Nat) (s : TStep) : Bool :=
  !isWriteReq s.req || scanAll nextCount (cutOk minLen) n s.obs

theorem step_state (minLen : Nat) (m : M6) (s : TStep) :
    (M6.step minLen m s).baseOpen = s.obs.foldl nextOpen m.baseOpen ∧
    (M6.step minLen m s).sinceStart = s.obs.foldl nextCount m.sinceStart ∧
    (M6.step minLen m s).throttledSoFar = (m.throttledSoFar || hasThr s) := by
  simp only [M6.step, hasThr]
  exact ⟨(List.foldl_hom M6.baseOpen fun m o => (obs_open minLen _ m o).symm).symm,
    (List.foldl_hom M6.sinceStart fun m o => (obs_since minLen _ m o).symm).symm, trivial⟩

theorem step_fails (minLen : Nat) (m : M6) (s : TStep) :
    (M6.step minLen m s).fails = [] ↔
      m.fails = [] ∧ scanAll nextOpen okWhen m.baseOpen s.obs = true ∧ cutsOk minLen m.sinceStart s = true ∧
        evOk s = true ∧ transpOk m.throttledSoFar s = true ∧ stopOk m.baseOpen s = true := by
  obtain ⟨req, obs⟩ := s
  cases req <;>
    simp only [
      -- left: the fold's complaints (`foldObs_fails`), then one `if` per clause, each empty iff its condition holds
      M6.step, List.append_eq_nil_iff, foldObs_fails, ite_else_singleton_nil, ite_ite_nil_iff, and_assoc,
      -- right: the same conditions, conjunct for conjunct, as Booleans
      cutsOk, isWriteReq, evOk, expectEv, transpOk, hasThr, stopOk, forwarded, Bool.or_eq_true, decide_eq_true_eq,
      beq_iff_eq,
      -- the clauses that do not apply to this kind of request
      Bool.not_false, Bool.not_true, Bool.true_or, Bool.false_or, Bool.false_eq_true, false_imp_iff, true_imp_iff,
      and_true, true_and]

/-- a step moves a state that observations move by `upd` -/
def perStep {σ : Type} (upd : σ → TObs → σ) (st : σ) (s : TStep) : σ := s.obs.foldl upd st

/-- the flag "some step so far emitted `throttled`" that the scan for `TransparentUntilThrottled` runs along -/
def stepThr (t : Bool) (s : TStep) : Bool := t || hasThr s

/-- `BasePaired` on the observations of one step, `o`: a base file is open before it (`scan_pairedOk`) -/
def pairedOk (o : Bool) (s : TStep) : Bool := scanAll nextOpen okWhen o s.obs

theorem fold_fails (minLen : Nat) : ∀ (tr : List TStep) (m : M6),
    (tr.foldl (M6.step minLen) m).fails = [] ↔
      m.fails = [] ∧ scanAll (perStep nextOpen) pairedOk m.baseOpen tr = true ∧
        scanAll (perStep nextCount) (cutsOk minLen) m.sinceStart tr = true ∧ tr.all evOk = true ∧
        scanAll stepThr transpOk m.throttledSoFar tr = true ∧
        scanAll (perStep nextOpen) stopOk m.baseOpen tr = true := by
  intro tr
  induction tr with
  | nil =>
    intro m
    constructor
    · intro h; exact ⟨h, rfl, rfl, rfl, rfl, rfl⟩
    · intro h; exact h.1
  | cons s tr ih =>
    intro m
    obtain ⟨ho, hn, ht⟩ := step_state minLen m s
    rw [List.foldl_cons, ih, step_fails, ho, hn, ht]
    simp only [scanAll, List.all_cons, Bool.and_eq_true, pairedOk, perStep, stepThr]
    constructor
    · rintro ⟨⟨h1, h2, h3, h4, h5, h6⟩, g2, g3, g4, g5, g6⟩
      exact ⟨h1, ⟨h2, g2⟩, ⟨h3, g3⟩, ⟨h4, g4⟩, ⟨h5, g5⟩, ⟨h6, g6⟩⟩
    · rintro ⟨h1, ⟨h2, g2⟩, ⟨h3, g3⟩, ⟨h4, g4⟩, ⟨h5, g5⟩, ⟨h6, g6⟩⟩
      exact ⟨⟨h1, h2, h3, h4, h5, h6⟩, g2, g3, g4, g5, g6⟩

theorem fold_state (minLen : Nat) (tr : List TStep) (m : M6) :
    (tr.foldl (M6.step minLen) m).baseOpen = tr.foldl (perStep nextOpen) m.baseOpen ∧
    (tr.foldl (M6.step minLen) m).sinceStart = tr.foldl (perStep nextCount) m.sinceStart ∧
    (tr.foldl (M6.step minLen) m).throttledSoFar = tr.foldl stepThr m.throttledSoFar :=
  ⟨(List.foldl_hom M6.baseOpen fun m s => (step_state minLen m s).1.symm).symm,
   (List.foldl_hom M6.sinceStart fun m s => (step_state minLen m s).2.1.symm).symm,
   (List.foldl_hom M6.throttledSoFar fun m s => (step_state minLen m s).2.2.symm).symm⟩

theorem nextOpen_quiet (o : Bool) (c : TObs) (h : isBase c = false) : nextOpen o c = o := by
  cases c <;> first | rfl | cases h

theorem nextCount_quiet (n : Nat) (c : TObs) (h : isBase c = false) : nextCount n c = n := by
  cases c <;> first | rfl | cases h

theorem okWhen_quiet (o : Bool) (c : TObs) (h : isBase c = false) : okWhen o c = true := by
  cases c <;> first | rfl | cases h

/-- the state reached inside a step (after the observations `obs`) that follows the steps `pre`, for any
update that ignores non-base observations: it is the state after the base calls made so far -/
theorem foldl_inside {σ : Type} (upd : σ → TObs → σ) (hq : ∀ st c, isBase c = false → upd st c = st)
    (pre : List TStep) (obs : List TObs) (st : σ) :
    obs.foldl upd (pre.foldl (perStep upd) st) = (baseCalls pre ++ baseOf obs).foldl upd st := by
  simp only [List.foldl_append, baseCalls, baseOf, List.foldl_flatMap, foldl_filter upd isBase hq]
  rfl

theorem foldl_perStep {σ : Type} (upd : σ → TObs → σ) (hq : ∀ st c, isBase c = false → upd st c = st)
    (tr : List TStep) (st : σ) : tr.foldl (perStep upd) st = (baseCalls tr).foldl upd st := by
  rw [← List.append_nil (baseCalls tr)]
  exact foldl_inside upd hq tr [] st

theorem scan_pairedOk (tr : List TStep) (o : Bool) :
    scanAll (perStep nextOpen) pairedOk o tr = scanAll nextOpen okWhen o (baseCalls tr) := by
  rw [baseCalls, scanAll_flatMap]
  congr 1
  · funext o s
    exact (foldl_filter nextOpen isBase nextOpen_quiet s.obs o).symm
  · funext o s
    exact (scanAll_filter nextOpen okWhen isBase nextOpen_quiet okWhen_quiet s.obs o).symm

theorem match_iff_okWhen (o : Bool) (c : TObs) :
    (match c with
      | .bWrite _ _ => o = true
      | .bStop _ => o = true
      | .bStart _ _ => o = false
      | _ => True) ↔ okWhen o c = true := by
  cases c with
  | bStart tag ok => cases o <;> simp [okWhen]
  | bWrite id ok | bStop ok => exact Iff.rfl
  | _ => simp [okWhen]

theorem pairedCalls_iff (cs : List TObs) : PairedCalls cs ↔ scanAll nextOpen okWhen false cs = true :=
  (forall₂_congr fun _ _ => match_iff_okWhen _ _).trans (scanAll_iff ..).symm

theorem basePaired_iff (tr : List TStep) :
    BasePaired tr ↔ scanAll (perStep nextOpen) pairedOk false tr = true := by
  rw [scan_pairedOk]
  exact pairedCalls_iff _

theorem cutOk_iff (minLen n : Nat) (c : TObs) :
    cutOk minLen n c = true ↔ ((∃ ok, c = TObs.bStop ok) → minLen ≤ n) := by
  cases c <;> simp [cutOk]

theorem cutsOk_iff (minLen : Nat) (pre : List TStep) (s : TStep) :
    cutsOk minLen (pre.foldl (perStep nextCount) 0) s = true ↔
      (isWriteReq s.req = true → ∀ j (hj : j < s.obs.length), (∃ ok, s.obs[j] = TObs.bStop ok) →
        minLen ≤ framesInFile (baseCalls pre ++ baseOf (s.obs.take j))) := by
  rw [cutsOk, Bool.or_eq_true, Bool.not_eq_true', scanAll_iff, Decidable.imp_iff_not_or, Bool.not_eq_true]
  simp only [cutOk_iff, foldl_inside nextCount nextCount_quiet]
  rfl

theorem cutsLongEnough_iff (minLen : Nat) (tr : List TStep) :
    CutsLongEnough minLen tr ↔ scanAll (perStep nextCount) (cutsOk minLen) 0 tr = true :=
  (forall₂_congr fun i _ => (cutsOk_iff minLen (tr.take i) tr[i]).symm).trans (scanAll_iff ..).symm

theorem countThrottled_eq (obs : List TObs) : countThrottled obs = obs.count TObs.throttled := by
  rw [countThrottled, List.count_eq_length_filter]

theorem hasBStart_iff (obs : List TObs) : hasBStart obs = true ↔ ∃ tag ok, TObs.bStart tag ok ∈ obs := by
  simp only [hasBStart, List.any_eq_true]
  constructor
  · rintro ⟨o, hm, h⟩
    cases o with
    | bStart tag ok => exact ⟨tag, ok, hm⟩
    | _ => cases h
  · rintro ⟨tag, ok, hm⟩; exact ⟨_, hm, rfl⟩

theorem hasBStop_iff (obs : List TObs) : hasBStop obs = true ↔ ∃ ok, TObs.bStop ok ∈ obs := by
  simp only [hasBStop, List.any_eq_true]
  constructor
  · rintro ⟨o, hm, h⟩
    cases o with
    | bStop ok => exact ⟨ok, hm⟩
    | _ => cases h
  · rintro ⟨ok, hm⟩; exact ⟨_, hm, rfl⟩

def isStartReq : TReq → Bool
  | .start .. => true
  | _ => false

def suppressedStartB (s : TStep) : Bool := isStartReq s.req && !hasBStart s.obs

def cutB (s : TStep) : Bool := isWriteReq s.req && hasBStop s.obs

theorem isStartReq_iff (r : TReq) : isStartReq r = true ↔ ∃ t tag ok, r = .start t tag ok := by
  cases r <;> simp [isStartReq]

theorem isWriteReq_iff (r : TReq) : isWriteReq r = true ↔ ∃ t id a b c, r = .write t id a b c := by
  cases r <;> simp [isWriteReq]

theorem suppressedStart_iff (s : TStep) : SuppressedStart s ↔ suppressedStartB s = true := by
  rw [SuppressedStart, suppressedStartB, Bool.and_eq_true, isStartReq_iff, Bool.not_eq_true', ← Bool.not_eq_true,
    hasBStart_iff]
  simp only [not_exists]

theorem cut_iff (s : TStep) : Cut s ↔ cutB s = true := by
  rw [Cut, cutB, Bool.and_eq_true, isWriteReq_iff, hasBStop_iff]

instance (s : TStep) : Decidable (SuppressedStart s) := decidable_of_iff _ (suppressedStart_iff s).symm
instance (s : TStep) : Decidable (Cut s) := decidable_of_iff _ (cut_iff s).symm

theorem expectEv_eq (s : TStep) : expectEv s = if suppressedStartB s || cutB s then 1 else 0 := by
  obtain ⟨req, obs⟩ := s
  cases req with
  | start t tag ok =>
    cases h : hasBStart obs <;> simp [expectEv, suppressedStartB, cutB, isStartReq, isWriteReq, h]
  | write t id a b c =>
    cases h : hasBStop obs <;> simp [expectEv, suppressedStartB, cutB, isStartReq, isWriteReq, h]
  | stop ok => simp [expectEv, suppressedStartB, cutB, isStartReq, isWriteReq]

theorem evOk_iff (s : TStep) :
    evOk s = true ↔
      (((SuppressedStart s ∨ Cut s) → s.obs.count TObs.throttled = 1) ∧
       (¬ (SuppressedStart s ∨ Cut s) → s.obs.count TObs.throttled = 0)) := by
  rw [evOk, beq_iff_eq, countThrottled_eq, expectEv_eq, suppressedStart_iff, cut_iff, ← Bool.or_eq_true]
  cases suppressedStartB s || cutB s <;> simp

theorem eventsExact_iff (tr : List TStep) : EventsExact tr ↔ tr.all evOk = true :=
  (forall₂_congr fun s _ => (evOk_iff s).symm).trans List.all_eq_true.symm

theorem hasThr_iff (s : TStep) : hasThr s = true ↔ TObs.throttled ∈ s.obs := by
  rw [hasThr, decide_eq_true_eq, countThrottled_eq]
  exact List.count_pos_iff

theorem foldl_stepThr : ∀ (l : List TStep) (t : Bool),
    l.foldl stepThr t = true ↔ (t = true ∨ ∃ s ∈ l, TObs.throttled ∈ s.obs) := by
  intro l
  induction l with
  | nil => intro t; simp
  | cons x l ih =>
    intro t
    rw [List.foldl_cons, ih, stepThr, Bool.or_eq_true, hasThr_iff]
    simp only [List.mem_cons, exists_eq_or_imp, or_assoc]

/-- the check passes iff something was throttled up to and including this step, or the step is the forwarded
call: read the first alternative as the negated premise of the clause -/
theorem transpOk_iff (pre : List TStep) (s : TStep) :
    transpOk (pre.foldl stepThr false) s = true ↔
      ((∀ x ∈ pre ++ [s], TObs.throttled ∉ x.obs) → s.obs = forwarded s.req) := by
  rw [transpOk, Bool.or_eq_true, Bool.or_eq_true, foldl_stepThr, hasThr_iff, beq_iff_eq,
    Decidable.or_iff_not_imp_left]
  simp only [List.forall_mem_append, List.forall_mem_singleton, not_or, not_exists, not_and,
    Bool.false_eq_true, not_false_eq_true, true_and]

theorem transparent_iff (tr : List TStep) :
    TransparentUntilThrottled tr ↔ scanAll stepThr transpOk false tr = true :=
  (forall₂_congr fun i hi => by rw [transpOk_iff, List.take_append_getElem hi]).trans (scanAll_iff ..).symm

theorem stopOk_iff (pre : List TStep) (s : TStep) :
    stopOk (pre.foldl (perStep nextOpen) false) s = true ↔
      ((∃ ok, s.req = TReq.stop ok) →
        ((∃ ok, TObs.bStop ok ∈ s.obs) ↔ baseOpenAfter (baseCalls pre) = true)) := by
  rw [foldl_perStep nextOpen nextOpen_quiet, ← baseOpenAfter, ← hasBStop_iff]
  obtain ⟨req, obs⟩ := s
  cases req with
  | stop ok =>
    simp only [stopOk, beq_iff_eq]
    rw [Bool.eq_iff_iff]
    exact ⟨fun h _ => h, fun h => h ⟨ok, rfl⟩⟩
  | _ => exact ⟨fun _ ⟨_, h⟩ => (nomatch h), fun _ => rfl⟩

theorem stopForwarding_iff (tr : List TStep) :
    StopForwarding tr ↔ scanAll (perStep nextOpen) stopOk false tr = true :=
  (forall₂_congr fun i _ => (stopOk_iff (tr.take i) tr[i]).symm).trans (scanAll_iff ..).symm

instance (cs : List TObs) : Decidable (PairedCalls cs) := decidable_of_iff _ (pairedCalls_iff cs).symm
instance (tr : List TStep) : Decidable (BasePaired tr) := decidable_of_iff _ (basePaired_iff tr).symm
instance (minLen : Nat) (tr : List TStep) : Decidable (CutsLongEnough minLen tr) :=
  decidable_of_iff _ (cutsLongEnough_iff minLen tr).symm
instance (tr : List TStep) : Decidable (EventsExact tr) := decidable_of_iff _ (eventsExact_iff tr).symm
instance (tr : List TStep) : Decidable (TransparentUntilThrottled tr) :=
  decidable_of_iff _ (transparent_iff tr).symm
instance (tr : List TStep) : Decidable (StopForwarding tr) := decidable_of_iff _ (stopForwarding_iff tr).symm
instance (minLen : Nat) (tr : List TStep) : Decidable (C06Spec minLen tr) := by
  unfold C06Spec; exact inferInstance

/-- `BasePaired`, stated per step `i` and observation position `j` instead of over the flat list of calls -/
theorem basePaired_nested (tr : List TStep) :
    BasePaired tr ↔
      ∀ i (h : i < tr.length) j (hj : j < tr[i].obs.length),
        okWhen (baseOpenAfter (baseCalls (tr.take i) ++ baseOf (tr[i].obs.take j))) tr[i].obs[j] = true := by
  simp only [basePaired_iff, scanAll_iff, pairedOk, foldl_inside nextOpen nextOpen_quiet]
  rfl

theorem open_split (cs : List TObs) (h : baseOpenAfter cs = true) :
    ∃ pre tag post, cs = pre ++ TObs.bStart tag true :: post ∧ NoStop post ∧ NoStartOk post := by
  obtain ⟨pre, tag, post, rfl, hn⟩ := (baseOpenAfter_iff cs).mp h
  obtain ⟨pre', a, post', he, ha, hp⟩ := exists_last_split startsFile (TObs.bStart tag true :: post) rfl
  obtain ⟨tag', rfl⟩ := (startsFile_iff a).mp ha
  refine ⟨pre ++ pre', tag', post', by rw [he, List.append_assoc], fun ok hm => ?_, (noStartOk_iff _).mpr hp⟩
  have : TObs.bStop ok ∈ TObs.bStart tag true :: post := he ▸ List.mem_append_right _ (List.mem_cons_of_mem _ hm)
  rcases List.mem_cons.mp this with e | hm
  · cases e
  · exact hn ok hm

/-- the tag carried by a `.start` request -/
def startTag? : TReq → Option Nat
  | .start _ tag _ => some tag
  | _ => none

/-- the tag of the latest `.start` REQUEST among steps `0..i` (at or before step `i`) -/
def latestTag (tr : List TStep) (i : Nat) : Option Nat :=
  ((tr.take (i + 1)).filterMap fun s => startTag? s.req).getLast?

/-- **fresh tags**: every `bStart` observed at step `i` carries the tag of the latest upstream start request
at or before step `i` -/
def FreshTags (tr : List TStep) : Prop :=
  ∀ i (h : i < tr.length), ∀ tag ok, TObs.bStart tag ok ∈ tr[i].obs → latestTag tr i = some tag

/-- the monitor's update of the remembered tag -/
def tagNext (t : Option Nat) (s : TStep) : Option Nat :=
  match s.req with
  | .start _ tag _ => some tag
  | _ => t

def tagOk (t : Option Nat) (s : TStep) : Bool := !(s.obs.any (staleStart (tagNext t s)))

theorem m11_step_tag (m : M11) (s : TStep) : (M11.step m s).lastTag = tagNext m.lastTag s := by
  obtain ⟨req, obs⟩ := s
  simp only [M11.step]
  split <;> cases req <;> rfl

theorem m11_step_fails (m : M11) (s : TStep) :
    (M11.step m s).fails = [] ↔ m.fails = [] ∧ tagOk m.lastTag s = true := by
  obtain ⟨req, obs⟩ := s
  have ht : M11.tagAfter m req = tagNext m.lastTag ⟨req, obs⟩ := by cases req <;> rfl
  simp only [M11.step, tagOk, ht]
  cases List.any obs (staleStart (tagNext m.lastTag ⟨req, obs⟩)) <;> simp

theorem m11_fold (tr : List TStep) (m : M11) :
    (tr.foldl M11.step m).lastTag = tr.foldl tagNext m.lastTag ∧
    ((tr.foldl M11.step m).fails = [] ↔ m.fails = [] ∧ scanAll tagNext tagOk m.lastTag tr = true) :=
  monitor_fold M11.step (·.lastTag) (·.fails) tagNext tagOk m11_step_tag m11_step_fails tr m

theorem foldl_tagNext : ∀ (l : List TStep) (t : Option Nat),
    l.foldl tagNext t = ((l.filterMap fun s => startTag? s.req).getLast?).or t := by
  intro l
  induction l with
  | nil => intro t; rfl
  | cons s l ih =>
    intro t
    have hs : ∀ s : TStep, tagNext t s = (startTag? s.req).or t := fun ⟨req, _⟩ => by cases req <;> rfl
    rw [List.foldl_cons, ih, hs, List.filterMap_cons]
    cases startTag? s.req with
    | none => rfl
    | some tag =>
      simp only [List.getLast?_cons]
      cases (List.filterMap (fun s => startTag? s.req) l).getLast? <;> rfl

theorem tagNext_take (tr : List TStep) (i : Nat) (h : i < tr.length) :
    tagNext ((tr.take i).foldl tagNext none) tr[i] = latestTag tr i := by
  have : tagNext ((tr.take i).foldl tagNext none) tr[i] = (tr.take i ++ [tr[i]]).foldl tagNext none := by
    rw [List.foldl_append]; rfl
  rw [this, List.take_append_getElem h, foldl_tagNext, latestTag, Option.or_none]

theorem tagOk_iff (t : Option Nat) (s : TStep) :
    tagOk t s = true ↔ ∀ tag ok, TObs.bStart tag ok ∈ s.obs → tagNext t s = some tag := by
  rw [tagOk, Bool.not_eq_true', List.any_eq_false]
  constructor
  · intro h tag ok hm
    have := h _ hm
    simp only [staleStart, bne_iff_ne, ne_eq, Decidable.not_not] at this
    exact this.symm
  · intro h o ho
    cases o with
    | bStart tag ok => simp [staleStart, h tag ok ho]
    | _ => simp [staleStart]

theorem freshTags_iff (tr : List TStep) : FreshTags tr ↔ scanAll tagNext tagOk none tr = true :=
  (forall₂_congr fun i hi => by rw [tagOk_iff, tagNext_take tr i hi]).trans (scanAll_iff ..).symm

instance (tr : List TStep) : Decidable (FreshTags tr) := decidable_of_iff _ (freshTags_iff tr).symm

/-- the tag the monitor remembers after a trace is the tag of its last start request -/
theorem m11_state (tr : List TStep) :
    (tr.foldl M11.step {}).lastTag = (tr.filterMap fun s => startTag? s.req).getLast? := by
  rw [(m11_fold _ _).1, foldl_tagNext, Option.or_none]

end TR.C06Spec
