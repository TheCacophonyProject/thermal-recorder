import Proofs.C01Spec
import Proofs.C17Spec
import Proofs.C12Spec
import Proofs.PipeLemmas
import Proofs.ProcFaults
/-!
# Proofs.PipeC01 — the files of a sink are the files of the calls the processor makes on it

* `PipeOp`, `Pipe.op`: one step of the composed pipeline; `motionFiles`, `mot`;
* `KRel`: the files of one kind (newest first) mirror the file accumulator `C17Spec.FAcc` of the matching sink
  (`krel_files`: their frame lists are the accumulator's);
  `FRel` is the same relation over the recording accumulator `C01Spec.RecAcc` of the motion sink (read only by
  `PI` and `PipeC04.PIE`, on which no other proof rests); `recAcc_eq_fileAcc`: that accumulator has the fields of
  the file accumulator of the motion sink, so what `KRel` says of the motion files it says of `recordings`;
* `get_obs`: the C12 monitor's flag of a sink is "a file of that sink is open" (the monitor is read through
  `C12Spec.obs_get` / `obs_fails`);
* `krel_obs` / `krel_fold`: one observation / one observation list keeps `KRel` — for the continuous and the
  test sink always, for the motion sink when no throttle sits in front of it and the call is `clean`
  (`step_clean`: every call of a step on an event with the pipeline's fault record, `PipeEv`, is).
-/
namespace TR.C01Spec
open TR TR.PipeLemmas TR.PipeC17 TR.C17Spec

variable {F : FloatOps}

inductive PipeOp
  | item (it : Socket.Item)
  | testReq

/-- one step of the composed pipeline: a socket item or a test-recording request -/
def Pipe.op (c : PipeCfg) (p : Pipe F) : PipeOp → Pipe F
  | .item it => Pipe.item c p it
  | .testReq => Pipe.testRequest c p

/-- frame-id lists of the motion files, oldest first -/
def motionFiles (p : Pipe F) : List (List Nat) :=
  (p.files.reverse.filter (·.kind == .motion)).map (·.frames)

/-- the motion files, newest first -/
def mot (fs : List RecFile) : List RecFile := fs.filter (·.kind == .motion)

theorem mot_kind {fs : List RecFile} {f : RecFile} (h : f ∈ mot fs) : f.kind = .motion := PipeC17.kf_kind h

theorem motionFiles_eq (p : Pipe F) : motionFiles p = ((mot p.files).map (·.frames)).reverse :=
  filesOfKind_eq .motion p

theorem mot_cons_motion (x : RecFile) (fs : List RecFile) (h : x.kind = .motion) : mot (x :: fs) = x :: mot fs :=
  PipeC17.kf_cons_same .motion x fs h

theorem mot_cons_other (x : RecFile) (fs : List RecFile) (h : x.kind ≠ .motion) : mot (x :: fs) = mot fs :=
  PipeC17.kf_cons_other .motion x fs h

theorem updOpen_mot_other (fs : List RecFile) (k : FileKind) (u : RecFile → RecFile) (hk : k ≠ .motion)
    (hu : ∀ x, (u x).kind = x.kind) : mot (Pipe.updOpen fs k u) = mot fs :=
  PipeC17.updOpen_kf_other .motion k fs u hk hu

theorem updOpen_mot_motion (fs : List RecFile) (u : RecFile → RecFile) (hu : ∀ x, (u x).kind = x.kind) :
    mot (Pipe.updOpen fs .motion u) = Pipe.updOpen (mot fs) .motion u :=
  PipeC17.updOpen_kf_same .motion fs u hu

/-- the files of a kind (newest first) mirror the accumulator: the closed files below, the open one — the
only file of that kind still open — on top -/
def KRel (ms : List RecFile) (a : FAcc) : Prop :=
  ∃ rest, (∀ f ∈ rest, f.closed = true) ∧ rest.map (·.frames) = a.done.reverse ∧
    match a.cur with
    | none => ms = rest
    | some r => ∃ x, ms = x :: rest ∧ x.closed = false ∧ x.frames = r

theorem krel_init : KRel [] {} := ⟨[], (fun f hf => by cases hf), rfl, rfl⟩

theorem krel_files (k : FileKind) (p : Pipe F) (a : FAcc) (h : KRel (kf k p.files) a) :
    filesOfKind k p = a.done ++ a.cur.toList := by
  obtain ⟨rest, _, hmap, hcur⟩ := h
  rw [filesOfKind_eq]
  cases hc : a.cur with
  | none =>
    rw [hc] at hcur
    simp only at hcur
    rw [hcur, hmap, List.reverse_reverse]; simp
  | some r =>
    rw [hc] at hcur
    obtain ⟨x, hx, _, hfr⟩ := hcur
    rw [hx, List.map_cons, hmap, hfr]
    simp

theorem krel_start (ms : List RecFile) (a : FAcc) (x : RecFile) (hc : a.cur = none)
    (hx1 : x.closed = false) (hx2 : x.frames = []) (h : KRel ms a) :
    KRel (x :: ms) { done := a.done ++ a.cur.toList, cur := some [] } := by
  obtain ⟨rest, hcl, hmap, hcur⟩ := h
  rw [hc] at hcur
  simp only at hcur
  rw [hc, hcur]
  exact ⟨rest, hcl, by simpa using hmap, x, rfl, hx1, hx2⟩

theorem krel_write (k : FileKind) (ms : List RecFile) (a : FAcc) (id : Nat) (hk : ∀ f ∈ ms, f.kind = k)
    (h : KRel ms a) :
    KRel (Pipe.updOpen ms k (fun f => { f with frames := f.frames ++ [id] }))
      { a with cur := a.cur.map (· ++ [id]) } := by
  obtain ⟨rest, hcl, hmap, hcur⟩ := h
  cases hc : a.cur with
  | none =>
    rw [hc] at hcur
    simp only at hcur
    rw [hcur, updOpen_all_closed _ _ _ hcl]
    exact ⟨rest, hcl, hmap, by simp⟩
  | some r =>
    rw [hc] at hcur
    obtain ⟨x, hx, hxc, hxf⟩ := hcur
    have hkx : x.kind = k := hk x (by rw [hx]; exact List.mem_cons_self ..)
    rw [hx, updOpen_head_open_k k x rest _ hkx hxc]
    exact ⟨rest, hcl, hmap, _, rfl, hxc, by simp [hxf]⟩

theorem krel_stop (k : FileKind) (ms : List RecFile) (a : FAcc) (hk : ∀ f ∈ ms, f.kind = k)
    (h : KRel ms a) :
    KRel (Pipe.updOpen ms k (fun f => { f with closed := true }))
      { done := a.done ++ a.cur.toList, cur := none } := by
  obtain ⟨rest, hcl, hmap, hcur⟩ := h
  cases hc : a.cur with
  | none =>
    rw [hc] at hcur
    simp only at hcur
    rw [hcur, updOpen_all_closed _ _ _ hcl]
    exact ⟨rest, hcl, by simpa using hmap, rfl⟩
  | some r =>
    rw [hc] at hcur
    obtain ⟨x, hx, hxc, hxf⟩ := hcur
    have hkx : x.kind = k := hk x (by rw [hx]; exact List.mem_cons_self ..)
    rw [hx, updOpen_head_open_k k x rest _ hkx hxc]
    refine ⟨_, ?_, ?_, rfl⟩
    · intro f hf
      rcases List.mem_cons.mp hf with rfl | hf
      · rfl
      · exact hcl f hf
    · simp [hmap, hxf]

/-- the motion files (newest first) mirror the accumulator: the closed recordings below, the open one —
the only file still open — on top -/
def FRel (ms : List RecFile) (a : RecAcc) : Prop :=
  ∃ rest, (∀ f ∈ rest, f.closed = true) ∧ rest.map (·.frames) = a.done.reverse ∧
    match a.cur with
    | none => ms = rest
    | some r => ∃ x, ms = x :: rest ∧ x.closed = false ∧ x.frames = r

/-- the recording accumulator of a trace has the two fields of the file accumulator of its motion sink (`RecAcc` and
`FAcc` are the same record twice): what is proved of `fileAcc .motion` holds of `recAcc`, hence of `recordings`
(`PipeSim.sim_motionFiles`, `PipeSim.mon12_mo`); and over it `FRel` is `KRel`, word for word -/
theorem recAcc_eq_fileAcc (tr : List Step) : recAcc tr = ⟨(fileAcc .motion tr).done, (fileAcc .motion tr).cur⟩ := by
  unfold recAcc fileAcc
  exact (facc_motion_fold _ {}).symm

/-- no failed `WriteFrame` / `StopRecording` on the motion sink (the composed pipeline's sinks never fail) -/
def clean : Obs → Bool
  | .call .motion (.write _) false => false
  | .call .motion .stop false => false
  | _ => true

theorem step_clean (c : PCfg) (s : PState) (e : Ev) (hf : e.faults.mWriteFail = 0) (h2 : e.faults.mStop = true) :
    (PState.step c s e).2.all clean = true := by
  rw [List.all_eq_true]
  intro o ho
  cases o with
  | call k cl ok =>
    cases ok with
    | true => cases k <;> cases cl <;> rfl
    | false =>
      -- a failed call is one the fault record dictates; this one dictates none on a motion write or stop
      have h := step_fail_dictated c s e k cl ho
      cases k <;> cases cl <;> first | rfl | simp [Faults.allows, hf, h2] at h
  | _ => rfl

theorem m12s_fold_fails (os : List Obs) (m : M12s) (h : (os.foldl M12s.obs m).fails = []) : m.fails = [] :=
  ((C12Spec.fold_monitor os m).2.mp h).1

theorem onSink_other {s s' : Sink} (hne : s' ≠ s) (cl : Call) (ok : Bool) : onSink s (.call s' cl ok) = false := by
  simp [onSink, hne]

theorem facc_isSome (s : Sink) (a : FAcc) (cl : Call) (ok : Bool) :
    (a.obs s (.call s cl ok)).cur.isSome = C12Spec.nextOpen a.cur.isSome (cl, ok) := by
  cases cl with
  | can => rfl
  | start => cases ok <;> simp [FAcc.obs, C12Spec.nextOpen]
  | write id => rw [facc_write]; exact Option.isSome_map
  | stop => rw [facc_stop]; rfl

theorem get_obs (s : Sink) (m : M12s) (a : FAcc) (o : Obs) (h : m.get s = a.cur.isSome) :
    (M12s.obs m o).get s = (a.obs s o).cur.isSome := by
  rw [C12Spec.obs_get]
  cases o with
  | call s' cl ok =>
    by_cases hs : s' = s
    · subst hs
      rw [facc_isSome, ← h]
      exact if_pos rfl
    · rw [facc_other s a _ (onSink_other hs cl ok)]
      exact (if_neg hs).trans h
  | _ => exact h

theorem get_fold (s : Sink) : ∀ (os : List Obs) (m : M12s) (a : FAcc), m.get s = a.cur.isSome →
    (os.foldl M12s.obs m).get s = (os.foldl (FAcc.obs s) a).cur.isSome := by
  intro os
  induction os with
  | nil => intro m a h; exact h
  | cons o os ih => intro m a h; exact ih _ _ (get_obs s m a o h)

theorem mo_obs (m : M12s) (a : RecAcc) (o : Obs) (h : m.mo = a.cur.isSome) :
    (M12s.obs m o).mo = (a.obs o).cur.isSome :=
  (get_obs .motion m ⟨a.done, a.cur⟩ o h).trans
    (congrArg (fun x : RecAcc => x.cur.isSome) (facc_motion ⟨a.done, a.cur⟩ o))

theorem start_not_open_k (s : Sink) (m : M12s) (a : FAcc) (hm : m.get s = a.cur.isSome)
    (hf : (M12s.obs m (.call s .start true)).fails = []) : a.cur = none := by
  have h := ((C12Spec.obs_fails m _).mp hf).2
  rw [C12Spec.obsOk, C12Spec.okWhen, hm] at h
  simpa using h

/-- an observed call on sink `s` is its file operation when it reaches the files unfiltered: no throttle in
front of the motion sink, not a failed motion-sink write or stop -/
theorem applyObs_call (c : PipeCfg) (p : Pipe F) (s : Sink) (hs : s = .motion → c.throttle = false)
    (cl : Call) (ok : Bool) (hcl : clean (.call s cl ok) = true) :
    Pipe.applyObs c p (.call s cl ok) =
      callOp c p (kindOf s) (if s = .motion then p.det.tempThresh else 0) cl ok := by
  by_cases hm : s = .motion
  · subst hm
    cases ok with
    | true => exact motionCall_off c (hs rfl) p cl
    | false => cases cl <;> first | rfl | cases hcl
  · rw [if_neg hm]; exact applyObs_other c p s hm cl ok

/-- **one observation**: the files of the kind of sink `s` follow the accumulator of the sink — for the
continuous and the test sink throttle on or off, for the motion sink without the throttle -/
theorem krel_obs (c : PipeCfg) (s : Sink) (hs : s = .motion → c.throttle = false) (p : Pipe F) (a : FAcc)
    (m : M12s) (o : Obs) (hcl : clean o = true) (hm : m.get s = a.cur.isSome) (hf : (M12s.obs m o).fails = [])
    (h : KRel (kf (kindOf s) p.files) a) : KRel (kf (kindOf s) (Pipe.applyObs c p o).files) (a.obs s o) := by
  cases o with
  | call s' cl ok =>
    by_cases hne : s' = s
    · subst hne
      rw [applyObs_call c p s' hs cl ok hcl]
      cases cl with
      | can => cases ok <;> exact h
      | start =>
        cases ok with
        | false => exact h
        | true =>
          rw [facc_start]
          obtain ⟨x, _, hx2, hx3, hx4⟩ := kf_start_same c p (kindOf s') (if s' = .motion then p.det.tempThresh else 0)
          show KRel (kf (kindOf s') (Pipe.startFile c p (kindOf s') _).files) _
          rw [hx4]
          exact krel_start _ a x (start_not_open_k s' m a hm hf) hx2 hx3 h
      | write id =>
        rw [facc_write]
        show KRel (kf (kindOf s') (Pipe.writeFile p (kindOf s') id).files) _
        rw [kf_write_same]
        exact krel_write (kindOf s') _ a id (fun f hf => kf_kind hf) h
      | stop =>
        rw [facc_stop]
        show KRel (kf (kindOf s') (Pipe.stopFile p (kindOf s')).files) _
        rw [kf_stop_same]
        exact krel_stop (kindOf s') _ a (fun f hf => kf_kind hf) h
    · rw [applyObs_other_kf c p s s' hne, facc_other s a _ (onSink_other hne cl ok)]
      exact h
  | _ => exact h

theorem krel_fold (c : PipeCfg) (s : Sink) (hs : s = .motion → c.throttle = false) :
    ∀ (os : List Obs) (p : Pipe F) (a : FAcc) (m : M12s), os.all clean = true →
    m.get s = a.cur.isSome → (os.foldl M12s.obs m).fails = [] → KRel (kf (kindOf s) p.files) a →
    KRel (kf (kindOf s) (os.foldl (Pipe.applyObs c) p).files) (os.foldl (FAcc.obs s) a) := by
  intro os
  induction os with
  | nil => intro p a m _ _ _ h; exact h
  | cons o os ih =>
    intro p a m hcl hm hf h
    simp only [List.all_cons, Bool.and_eq_true] at hcl
    simp only [List.foldl_cons] at hf ⊢
    exact ih _ _ (M12s.obs m o) hcl.2 (get_obs s m a o hm) hf
      (krel_obs c s hs p a m o hcl.1 hm (m12s_fold_fails os _ hf) h)

theorem fileAcc_snoc (s : Sink) (tr : List Step) (st : Step) :
    fileAcc s (tr ++ [st]) = st.obs.foldl (FAcc.obs s) (fileAcc s tr) := by
  simp only [fileAcc_eq, List.foldl_append, List.foldl_cons, List.foldl_nil]

/-- events the pipeline feeds to the processor: no write fault, `StopRecording` succeeds -/
def PipeEv (e : Ev) : Prop := e.faults.mWriteFail = 0 ∧ e.faults.mStop = true

/-- the pipeline state is the one induced by a processor event list -/
def PI (c : PipeCfg) (p : Pipe F) : Prop :=
  ∃ evs : List Ev, (∀ e ∈ evs, PipeEv e) ∧
    p.proc = PState.after c.proc (PState.init c.proc) evs ∧
    FRel (mot p.files) (recAcc (PState.trace c.proc (PState.init c.proc) evs)) ∧
    (evs.filter Ev.isFrame).length = p.accepted.length

theorem fold_proc_accepted (c : PipeCfg) (obs : List Obs) (p : Pipe F) :
    (obs.foldl (Pipe.applyObs c) p).proc = p.proc ∧ (obs.foldl (Pipe.applyObs c) p).accepted = p.accepted :=
  ⟨(applyObs_fold_others c obs p).2.1, (applyObs_fold_others c obs p).2.2.1⟩

end TR.C01Spec
