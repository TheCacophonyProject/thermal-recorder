import Proofs.Bucket
import Proofs.ThrStep
import Proofs.C06Spec
/-!
# Proofs.ThrottleC06 — the invariant behind C06 (pairing, clean cuts, one event per incident,
transparency until the first throttling)

No clock hypothesis is needed: `adjust` never lowers `avail` (truncated subtraction on ticks),
`TakeAvailable(1)` lowers it by exactly what it returns, and a cut happens only when the adjusted
`avail` is 0 (`Bucket.take1_cases`).
-/
namespace TR
open Bucket C06Spec

theorem available_eq (b : Bucket) (t : Nat) :
    (b.available t).1 = b.adjust t ∧ (b.available t).2 = (b.adjust t).avail := ⟨rfl, rfl⟩

/-- The C06 monitor `m` against the throttle `u.t` and the upstream's own view `u.upOpen` of whether it is
recording: the monitor's `baseOpen` is the throttle's `recording`; `len` is behind the clean cuts, `transp` behind
transparency. -/
structure Inv6 (minLen : Nat) (u : UState) (m : M6) : Prop where
  fails : m.fails = []
  base : m.baseOpen = u.t.recording
  recUp : u.t.recording = true → u.upOpen = true
  ml : u.t.minLen = minLen
  /-- frames already in the open file + tokens in hand cover the minimum length -/
  len : u.t.recording = true → minLen ≤ m.sinceStart + u.t.bucket.avail
  /-- until the first throttling the throttle records exactly when the upstream does -/
  transp : m.throttledSoFar = false → u.upOpen = u.t.recording

theorem inv6_init (cap q minLen : Nat) : Inv6 minLen { t := TState.init cap q minLen } {} :=
  ⟨rfl, rfl, (fun h => nomatch h), rfl, (fun h => nomatch h), fun _ => rfl⟩

theorem transpOk_forwarded (th : Bool) (r : TReq) : transpOk th ⟨r, forwarded r⟩ = true := by
  simp only [transpOk, beq_self_eq_true, Bool.or_true]

theorem transpOk_throttled (th : Bool) {s : TStep} (h : hasThr s = true) : transpOk th s = true := by
  rw [transpOk, h, Bool.or_true, Bool.true_or]

theorem decide_and_true {p : Prop} [Decidable p] (h : p) : (decide p && true) = true := by
  rw [decide_eq_true h]; rfl

/-- the invariant after one monitor step, through the monitor's own description (`C06Spec.step_state`,
`C06Spec.step_fails`): with the flags `o`, `th` known, every argument is about an explicit observation list -/
theorem Inv6.of_step {minLen : Nat} {u' : UState} {m : M6} {s : TStep} {o th : Bool} (hf : m.fails = [])
    (ho : m.baseOpen = o) (ht : m.throttledSoFar = th)
    (hpair : (scanAll nextOpen okWhen o s.obs && evOk s && stopOk o s) = true)
    (hcut : cutsOk minLen m.sinceStart s = true) (htp : transpOk th s = true)
    (base : s.obs.foldl nextOpen o = u'.t.recording) (recUp : u'.t.recording = true → u'.upOpen = true)
    (ml : u'.t.minLen = minLen)
    (len : u'.t.recording = true → minLen ≤ s.obs.foldl nextCount m.sinceStart + u'.t.bucket.avail)
    (transp : th = false → hasThr s = false → u'.upOpen = u'.t.recording) :
    Inv6 minLen u' (M6.step minLen m s) := by
  subst ho ht
  obtain ⟨h1, h2, h3⟩ := step_state minLen m s
  simp only [Bool.and_eq_true] at hpair
  refine ⟨(step_fails ..).mpr ⟨hf, hpair.1.1, hcut, hpair.1.2, htp, hpair.2⟩, h1.trans base, recUp, ml, ?_, ?_⟩
  · rw [h2]; exact len
  · rw [h3, Bool.or_eq_false_iff]; exact fun h => transp h.1 h.2

theorem inv6_step (minLen : Nat) (u : UState) (m : M6) (r : TReq) (up : Bool) (hi : Inv6 minLen u m)
    (hup : Issued u r up) :
    Inv6 minLen { t := (u.t.step r).1, upOpen := up } (M6.step minLen m ⟨r, (u.t.step r).2⟩) := by
  obtain ⟨hf, hb, hru, hml, hlen, htr⟩ := hi
  subst hml
  -- idle with the upstream open means a throttling has happened
  have hth : u.upOpen = true → u.t.recording = false → m.throttledSoFar = true := by
    intro h1 h2
    cases h : m.throttledSoFar
    · have := htr h; rw [h1, h2] at this; cases this
    · rfl
  -- In every case the step equation gives the observation list explicitly, so what `.of_step` asks about it (the
  -- monitor's checks `hpair`, `hcut`, `htp` and the flag it leaves, `base`) holds by evaluation: `rfl`.
  cases r with
  | start tk tag ok =>
    obtain ⟨hup, rfl⟩ := hup
    have hr : u.t.recording = false := by
      cases h : u.t.recording
      · rfl
      · have := hru h; rw [hup] at this; cases this
    rw [TState.step_start, hr]
    by_cases hc : u.t.minLen ≤ (u.t.bucket.adjust tk).avail
    · rw [if_pos hc]
      cases ok
      · exact .of_step hf (hb.trans hr) rfl (hpair := rfl) (hcut := rfl) (htp := transpOk_forwarded ..) (base := rfl)
          (recUp := fun h => nomatch h) (ml := rfl) (len := fun h => nomatch h) (transp := fun _ _ => rfl)
      · exact .of_step hf (hb.trans hr) rfl (hpair := rfl) (hcut := rfl) (htp := transpOk_forwarded ..) (base := rfl)
          (recUp := fun _ => rfl) (ml := rfl)
          (len := fun _ => by show u.t.minLen ≤ 0 + (u.t.bucket.adjust tk).avail; omega) (transp := fun _ _ => rfl)
    · rw [if_neg hc]
      exact .of_step hf (hb.trans hr) rfl (hpair := rfl) (hcut := rfl) (htp := transpOk_throttled _ rfl) (base := rfl)
        (recUp := fun h => nomatch h) (ml := rfl) (len := fun h => nomatch h) (transp := fun _ h => nomatch h)
  | write tk id sok wok pok =>
    obtain ⟨hup, rfl⟩ := hup
    cases hr : u.t.recording
    · have hth := hth hup hr
      rw [TState.step_write_idle _ _ _ _ _ _ hr, hr]
      by_cases hc : u.t.minLen ≤ (u.t.bucket.adjust tk).avail
      · rw [if_pos hc]
        cases sok
        · exact .of_step hf (hb.trans hr) hth (hpair := rfl) (hcut := rfl) (htp := rfl) (base := rfl)
            (recUp := fun h => nomatch h) (ml := rfl) (len := fun h => nomatch h) (transp := fun h => nomatch h)
        · rcases take1_cases (u.t.bucket.adjust tk) tk with ⟨h1, h2⟩ | ⟨h1, h2⟩
          · rw [if_pos h1]
            exact .of_step hf (hb.trans hr) hth (hpair := rfl) (hcut := rfl) (htp := rfl) (base := rfl)
              (recUp := fun _ => rfl) (ml := rfl)
              (len := fun _ => by show u.t.minLen ≤ 0 + 1 + ((u.t.bucket.adjust tk).take1 tk).1.avail; omega)
              (transp := fun h => nomatch h)
          · rw [if_neg h1]
            exact .of_step hf (hb.trans hr) hth (hpair := rfl)
              (hcut := decide_and_true (p := u.t.minLen ≤ 0) (by omega)) (htp := rfl) (base := rfl)
              (recUp := fun h => nomatch h) (ml := rfl) (len := fun h => nomatch h) (transp := fun h => nomatch h)
      · rw [if_neg hc]
        exact .of_step hf (hb.trans hr) hth (hpair := rfl) (hcut := rfl) (htp := rfl) (base := rfl)
          (recUp := fun h => nomatch h) (ml := rfl) (len := fun h => nomatch h) (transp := fun h => nomatch h)
    · have hlen := hlen hr
      rw [TState.step_write_rec _ _ _ _ _ _ hr, hr]
      rcases take1_cases u.t.bucket tk with ⟨h1, h2⟩ | ⟨h1, h2⟩
      · rw [if_pos h1]
        exact .of_step hf (hb.trans hr) rfl (hpair := rfl) (hcut := rfl) (htp := transpOk_forwarded ..) (base := rfl)
          (recUp := fun _ => rfl) (ml := rfl)
          (len := fun _ => by show u.t.minLen ≤ m.sinceStart + 1 + (u.t.bucket.take1 tk).1.avail; omega)
          (transp := fun _ _ => rfl)
      · rw [if_neg h1]
        exact .of_step hf (hb.trans hr) rfl (hpair := rfl)
          (hcut := decide_and_true (p := u.t.minLen ≤ m.sinceStart) (by omega)) (htp := transpOk_throttled _ rfl)
          (base := rfl) (recUp := fun h => nomatch h) (ml := rfl) (len := fun h => nomatch h)
          (transp := fun _ h => nomatch h)
  | stop ok =>
    obtain ⟨hup, rfl⟩ := hup
    rw [TState.step_stop]
    cases hr : u.t.recording
    · exact .of_step hf (hb.trans hr) (hth hup hr) (hpair := rfl) (hcut := rfl) (htp := rfl) (base := hr.symm)
        (recUp := fun h => nomatch hr.symm.trans h) (ml := rfl) (len := fun h => nomatch hr.symm.trans h)
        (transp := fun h => nomatch h)
    · exact .of_step hf (hb.trans hr) rfl (hpair := rfl) (hcut := rfl) (htp := transpOk_forwarded ..) (base := rfl)
        (recUp := fun h => nomatch h) (ml := rfl) (len := fun h => nomatch h) (transp := fun _ _ => rfl)

theorem monC06_ok (cap q minLen : Nat) (reqs : List TReq) :
    monC06 minLen (utrace { t := TState.init cap q minLen } reqs) = [] :=
  (utrace_foldl (M6.step minLen) (Inv6 minLen) (inv6_step minLen) reqs _ _ (inv6_init cap q minLen)).elim
    fun _ h => h.fails

end TR
