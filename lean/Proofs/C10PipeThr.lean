import Proofs.C10Pipe
import Proofs.ThrStep
/-!
# Proofs.C10PipeThr — helper lemmas for `Props.C10PipeThr` (the throttle between the processor's motion sink and the
motion file recorder: the calls that reach the file recorder obey the recorder protocol)

Nothing here mentions the translation `thrObs` itself (it is defined, readably, in `Props.C10PipeThr`).  The lemmas
are about ONE request of the throttle (`TState.step`), read through the vocabulary of `Proofs.C12Spec`:

* `baseCall` / `baseCallsOf` — the base-recorder calls (`bStart / bWrite / bStop`) among the observations of a step,
  as `Call × Bool` (what `callsOf .motion` gives once they are turned into `Obs.call .motion …`);
* `step_start_base`, `step_write_base`, `step_stop_base` — whatever the bucket, the tick and the base outcomes: the
  base calls of the step are in order (`scanAll nextOpen okWhen`) starting from the flag `s.recording`, and they leave
  the flag `(s.step r).1.recording`; in a write and in a stop request every `bStop` carries the outcome the request
  dictates (`stopsAre`), and a start request makes no `bStop` at all (`step_start_noStop`, in any state).  For the order a
  start request needs `s.recording = false` (the upstream protocol: no start while the upstream recording is open); a
  write and a stop request need nothing.  After a start request the throttle records only if the request carried
  `ok = true`.

They are read off the equations of `Proofs.ThrStep` (`TState.step_start` …).
-/
namespace TR.C10PipeThr
open TR.C12Spec

/-- a base-recorder call, in the vocabulary of the processor's sinks -/
def baseCall : TObs → Option (Call × Bool)
  | .bStart _ ok => some (.start, ok)
  | .bWrite id ok => some (.write id, ok)
  | .bStop ok => some (.stop, ok)
  | _ => none

/-- the base-recorder calls among the observations of a throttle step, in order -/
def baseCallsOf (l : List TObs) : List (Call × Bool) := l.filterMap baseCall

/-- every base `StopRecording` among these observations has outcome `b` -/
def stopsAre (b : Bool) (l : List TObs) : Bool :=
  l.all fun o => match o with | .bStop b' => b' == b | _ => true

theorem stopsAre_mem {b b' : Bool} {l : List TObs} (h : stopsAre b l = true) (hm : TObs.bStop b' ∈ l) : b' = b :=
  eq_of_beq (List.all_eq_true.mp h _ hm)

/-- a start request, made while the throttle is not recording: one `bStart` (or none), never a stop; the throttle
records afterwards only if the request's `ok` was `true` -/
theorem step_start_base (s : TState) (tk tag : Nat) (ok : Bool) (hr : s.recording = false) :
    scanAll nextOpen okWhen false (baseCallsOf (s.step (.start tk tag ok)).2) = true ∧
    (baseCallsOf (s.step (.start tk tag ok)).2).foldl nextOpen false = (s.step (.start tk tag ok)).1.recording ∧
    ((s.step (.start tk tag ok)).1.recording = true → ok = true) := by
  rw [TState.step_start, hr]
  split
  · cases ok <;> exact ⟨rfl, rfl, id⟩
  · exact ⟨rfl, rfl, fun h => nomatch h⟩

/-- a start request never stops the base recorder, whatever the throttle's state -/
theorem step_start_noStop (s : TState) (tk tag : Nat) (ok b : Bool) :
    stopsAre b (s.step (.start tk tag ok)).2 = true := by
  rw [TState.step_start]
  repeat' split
  all_goals rfl

/-- a write request, whatever the throttle's state: forwarded, cut, dropped, or restarted — always in order from
`s.recording`; a `bStop` carries `pok` -/
theorem step_write_base (s : TState) (tk id : Nat) (sok wok pok : Bool) :
    scanAll nextOpen okWhen s.recording (baseCallsOf (s.step (.write tk id sok wok pok)).2) = true ∧
    (baseCallsOf (s.step (.write tk id sok wok pok)).2).foldl nextOpen s.recording =
      (s.step (.write tk id sok wok pok)).1.recording ∧
    stopsAre pok (s.step (.write tk id sok wok pok)).2 = true := by
  cases hr : s.recording with
  | true =>
    rw [TState.step_write_rec _ _ _ _ _ _ hr]
    split
    · exact ⟨rfl, hr.symm, rfl⟩                      -- forwarded
    · exact ⟨rfl, rfl, by cases pok <;> rfl⟩         -- cut
  | false =>
    rw [TState.step_write_idle _ _ _ _ _ _ hr]
    repeat' split
    · exact ⟨rfl, rfl, rfl⟩                          -- restarted, frame forwarded
    · exact ⟨rfl, hr.symm, by cases pok <;> rfl⟩     -- restarted and cut at once
    · exact ⟨rfl, hr.symm, rfl⟩                      -- the restart failed in the base recorder
    · exact ⟨rfl, hr.symm, rfl⟩                      -- dropped

/-- a stop request: forwarded iff the throttle is recording; the throttle does not record afterwards -/
theorem step_stop_base (s : TState) (pok : Bool) :
    scanAll nextOpen okWhen s.recording (baseCallsOf (s.step (.stop pok)).2) = true ∧
    (baseCallsOf (s.step (.stop pok)).2).foldl nextOpen s.recording = (s.step (.stop pok)).1.recording ∧
    (s.step (.stop pok)).1.recording = false ∧
    stopsAre pok (s.step (.stop pok)).2 = true := by
  rw [TState.step_stop]
  cases hr : s.recording
  · exact ⟨rfl, hr.symm, hr, rfl⟩
  · exact ⟨rfl, rfl, rfl, by cases pok <;> rfl⟩

end TR.C10PipeThr
