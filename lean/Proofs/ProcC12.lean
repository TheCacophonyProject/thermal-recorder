import Proofs.ProcObs
import Proofs.MonStep
/-!
# Proofs.ProcC12 — the monitors of C12 (sink protocol, recovery), C13 (bad frames) and C17
(continuous / test sink layout) on the model's trace

One relation per monitor between model state and monitor state, shown for each part of a step from
the closed forms of `Proofs.ProcStep` and lifted by `trace_fold_inv`.
-/
namespace TR
open PState
open P03

/-- The monitor's three flags "a file is open on the motion / continuous / test sink" are the model's `isRec`,
"the continuous recorder is on and `crFrames ≠ 0`", and `snapRec`; and nothing has been reported. -/
def Rel12 (c : PCfg) (s : PState) (m : M12s) : Prop :=
  m.mo = s.isRec ∧ m.co = (c.constOn && decide (s.crFrames ≠ 0)) ∧ m.te = s.snapRec ∧ m.fails = []

theorem preRun_fold12 (s : PState) (f : Faults) (hh : s.ring.history ≠ none) (m : M12s) (hm : m.mo = true) :
    (preRun s f).1.foldl M12s.obs m = m := by
  refine foldl_fixed _ m _ fun o ho => ?_
  rcases mem_preRun ho with ⟨hn, _⟩ | ⟨_, _, _, _, _, rfl, _⟩
  · exact absurd hn hh
  · simp [M12s.obs, M12s.get, hm]

theorem stopRecording_rel12 (c : PCfg) (s : PState) (ok : Bool) (m : M12s) (h : Rel12 c s m) :
    Rel12 c (s.stopRecording ok).1 ((s.stopRecording ok).2.foldl M12s.obs m) := by
  cases hr : s.isRec
  · rw [stopRecording_idle hr]; exact h
  · rw [stopRecording_rec hr]; exact ⟨rfl, h.2⟩

theorem pStop_rel12 (c : PCfg) (f : Faults) (s : PState) (m : M12s) (h : Rel12 c s m) :
    Rel12 c (pStop f s).1 ((pStop f s).2.foldl M12s.obs m) := by
  rw [pStop_eq]
  split
  · exact ⟨rfl, h.2⟩
  · exact h

theorem process_rel12 (c : PCfg) (s : PState) (motion : Bool) (f : Faults) (m : M12s)
    (hh : s.ring.history ≠ none) (h : Rel12 c s m) :
    Rel12 c (process c s motion f).1 ((process c s motion f).2.foldl M12s.obs m) := by
  obtain ⟨h1, h2, h3, h4⟩ := h
  rcases process_cases c s motion f with ⟨hr, e⟩ | ⟨hr, _, q, hq, e⟩ | ⟨hr, _, _, e⟩ <;> rw [e]
  · -- the frame is written to the open recording: the monitor does not move
    have hm : ((if motion then [Obs.md] else []) ++ [wObs s.n 0 f]).foldl M12s.obs m = m := by
      cases motion <;> simp [M12s.obs, M12s.get, h1, hr]
    rw [andThen_fst, andThen_snd, List.foldl_append, hm]
    exact pStop_rel12 c f _ _ ⟨h1, h2, h3, h4⟩
  · cases hq <;> simp [Rel12, M12s.obs, M12s.get, h1, h2, h3, h4, hr]
  · rw [andThen_fst, andThen_snd, List.foldl_append]
    refine pStop_rel12 c f _ _ ?_
    simp [Rel12, M12s.obs, M12s.get, M12s.set, h1, h2, h3, h4, hr, preRun_fold12 s f hh]

theorem cycleObs_fold12 (k : Sink) (id : Nat) (wasOpen starting sOk wOk full eOk : Bool) (m : M12s)
    (hg : m.get k = wasOpen) (hs : starting = true → wasOpen = false) :
    (cycleObs k id wasOpen starting sOk wOk full eOk).foldl M12s.obs m =
      m.set k ((wasOpen || starting && sOk) && !full) := by
  obtain ⟨mo, co, te, fl⟩ := m
  cases starting
  · cases k <;> cases wasOpen <;> cases full <;> (cases hg; rfl)
  · obtain rfl := hs rfl
    cases k <;> cases sOk <;> cases full <;> (cases hg; rfl)

theorem pcr_rel12 (c : PCfg) (s : PState) (id : Nat) (f : Faults) (m : M12s) (h : Rel12 c s m) :
    Rel12 c (processConstantRecorder c s id f).1 ((processConstantRecorder c s id f).2.foldl M12s.obs m) := by
  obtain ⟨h1, h2, h3, h4⟩ := h
  rw [processConstantRecorder_eq, constObs, cycleObs_fold12 .const _ _ _ _ _ _ _ m h2 (by intro h; simp_all)]
  exact ⟨h1, (constNext_ne_zero c s.crFrames f).symm, h3, h4⟩

theorem psn_rel12 (c : PCfg) (s : PState) (id : Nat) (f : Faults) (m : M12s) (h : Rel12 c s m) :
    Rel12 c (processSnapshot c s id f).1 ((processSnapshot c s id f).2.foldl M12s.obs m) := by
  obtain ⟨h1, h2, h3, h4⟩ := h
  rw [processSnapshot_eq, testObs, cycleObs_fold12 .test _ _ _ _ _ _ _ m h3 (by intro h; simp_all)]
  exact ⟨h1, h2, rfl, h4⟩

theorem step_rel12 (c : PCfg) (s : PState) (m : M12s) (e : Ev) (hg : Good c s) (h : Rel12 c s m) :
    Rel12 c (PState.step c s e).1 ((PState.step c s e).2.foldl M12s.obs m) := by
  cases e with
  | frame mo f =>
    obtain ⟨lo, _, hh⟩ := good_history hg
    simp only [PState.step, processFrame, andThen_fst, andThen_snd, List.foldl_append]
    exact psn_rel12 c _ s.n f _ (pcr_rel12 c _ s.n f _
      (process_rel12 c (pre s) mo f m (by rw [hh]; exact Option.some_ne_none _) h))
  | bad f =>
    simp only [PState.step, processBad, andThen_fst, andThen_snd, List.foldl_append, stopConstantRecorder_eq]
    obtain ⟨p1, p2, p3, p4⟩ := stopRecording_rel12 c { s with ring := s.ring.write garbage } f.mStop m h
    by_cases hc : c.constOn = true <;> simp [Rel12, M12s.obs, M12s.set, p1, p2, p3, p4, hc]
  | reset f => exact stopRecording_rel12 c s f.mStop m h
  | testReq => exact h

theorem c12_protocol_all (c : PCfg) (hK : 0 < c.K) (evs : List Ev) :
    monC12 (PState.trace c (PState.init c) evs) = [] :=
  (trace_fold_inv c (fun (m : M12s) (st : Step) => st.obs.foldl M12s.obs m)
    (fun s m => Good c s ∧ Rel12 c s m) (fun _ => True)
    (fun s m e _ hi => ⟨good_step c s e hi.1, step_rel12 c s m e hi.1 hi.2⟩)
    evs _ _ (fun _ _ => trivial) ⟨good_init c hK, rfl, by simp [PState.init], rfl, rfl⟩).2.2.2.2

/-- a fault-free motion frame is written to the motion sink, or lengthens the motion run -/
theorem processFrame_recover (c : PCfg) (s : PState) :
    Obs.call .motion (.write s.n) true ∈ (processFrame c s true {}).2 ∨
    (s.triggered + 1 < c.trig ∧ (processFrame c s true {}).1.triggered = s.triggered + 1) := by
  rw [processFrame_parts]
  rcases process_cases c (pre s) true {} with ⟨hr, e⟩ | ⟨hr, hs, q, hq, e⟩ | ⟨hr, _, hs, e⟩ <;> rw [e]
  · exact .inl (by simp [wObs])
  · cases hq with
    | quiet h =>
      have hr' : s.isRec = false := hr
      simp [attempt, hr'] at h
      exact .inr ⟨by have := of_decide_eq_false h; omega, rfl⟩
    | disk _ _ h => simp at h
    | file _ _ _ h => simp at h
  · exact .inl (by simp [wObs])

theorem recover_aux (c : PCfg) : ∀ (n : Nat) (s : PState), 1 ≤ n → c.trig ≤ s.triggered + n →
    ∃ id, Obs.call .motion (.write id) true ∈
      (PState.trace c s (List.replicate n (Ev.frame true {}))).flatMap (·.obs) := by
  intro n
  induction n with
  | zero => intro s h; omega
  | succ n ih =>
    intro s _ ht
    simp only [List.replicate_succ, PState.trace, List.flatMap_cons, PState.step]
    rcases processFrame_recover c s with h | ⟨h1, h2⟩
    · exact ⟨s.n, List.mem_append_left _ h⟩
    · obtain ⟨id, hid⟩ := ih (processFrame c s true {}).1 (by omega) (by omega)
      exact ⟨id, List.mem_append_right _ hid⟩

theorem c12_recovery_all (c : PCfg) (s : PState) :
    ∃ id, Obs.call .motion (.write id) true ∈
      (PState.trace c s (List.replicate (max c.trig 1) (Ev.frame true {}))).flatMap (·.obs) :=
  recover_aux c (max c.trig 1) s (by omega) (by omega)

@[simp] theorem writesGarbage_nil : writesGarbage [] = false := rfl
@[simp] theorem writesGarbage_cons (o : Obs) (l : List Obs) :
    writesGarbage (o :: l) = ((match o with | .call _ (.write id) _ => id == garbage | _ => false) || writesGarbage l) :=
  rfl
@[simp] theorem writesGarbage_append (a b : List Obs) :
    writesGarbage (a ++ b) = (writesGarbage a || writesGarbage b) := List.any_append

theorem cycleObs_noGarbage (k : Sink) {id : Nat} (hid : id ≠ garbage) (wasOpen starting sOk wOk full eOk : Bool) :
    writesGarbage (cycleObs k id wasOpen starting sOk wOk full eOk) = false := by
  cases wasOpen <;> cases starting <;> cases sOk <;> cases full <;> simp [cycleObs, hid]

theorem pStop_noGarbage (f : Faults) (s : PState) : writesGarbage (pStop f s).2 = false := by
  rw [pStop_eq]; split <;> rfl

/-- ids are frame indices: as long as fewer than `garbage` frames were accepted, the id `garbage` is never
written -/
theorem step_frame_noGarbage (c : PCfg) (s : PState) (motion : Bool) (f : Faults)
    (hg : Good c s) (hn : s.n < garbage) : writesGarbage (PState.step c s (.frame motion f)).2 = false := by
  have hid : s.n ≠ garbage := by omega
  obtain ⟨lo, hlo, hh⟩ := good_history hg
  rw [step_frame]
  simp only [writesGarbage_append, constObs, testObs, cycleObs_noGarbage _ hid, Bool.or_false]
  rcases process_cases c (pre s) motion f with ⟨hr, e⟩ | ⟨hr, hs, q, hq, e⟩ | ⟨hr, _, hs, e⟩ <;> rw [e]
  · cases motion <;> simp [pStop_noGarbage, wObs, hid]
  · cases hq <;> rfl
  · have hp : writesGarbage (preRun (pre s) f).1 = false := by
      refine List.any_eq_false.2 fun o ho => ?_
      rcases mem_preRun ho with ⟨_, rfl⟩ | ⟨_, hh', id, hmem, _, rfl, _⟩
      · exact Bool.false_ne_true
      · obtain rfl := Option.some.inj (hh.symm.trans hh')
        have := List.mem_range'_1.mp (List.dropLast_subset _ hmem)
        simp only [beq_iff_eq]
        omega
    simp [pStop_noGarbage, wObs, hid, hp, P01.startPre]

def Rel13 (s : PState) (m : M13) : Prop := m.openRec = s.isRec ∧ m.fails = []

theorem step_rel13 (c : PCfg) (s : PState) (m : M13) (e : Ev) (hg : Good c s)
    (hn : (PState.step c s e).1.n ≤ garbage) (hr : Rel13 s m) :
    Rel13 (PState.step c s e).1 (M13.step m ⟨e, (PState.step c s e).2⟩) := by
  obtain ⟨h1, h2⟩ := hr
  cases e with
  | frame mo f =>
    have hn : s.n < garbage := by rw [step_n] at hn; exact hn
    obtain ⟨p1, p2, p3, _⟩ := frame_summary c s mo f
    simp only [M13.step, Rel13, step_frame_noGarbage c s mo f hg hn, p1, p2, p3, h1, h2]
    exact ⟨rfl, rfl⟩
  | bad f =>
    rw [step_bad]
    simp only [M13.step, Rel13, h1, h2]
    cases s.isRec <;> cases c.constOn <;> exact ⟨rfl, rfl⟩
  | reset f =>
    rw [step_reset]
    cases hrec : s.isRec <;> simp [M13.step, Rel13, h1, h2, hrec]
  | testReq => simp [M13.step, PState.step, Rel13, h1, h2]

/-- The monitor follows `isRec` and reports nothing, for every run of at most `garbage` events: ids are frame
indices, and the sentinel id `garbage = 4000000000` must stay unused for the monitor's "rejected content written"
check to be meaningful. -/
theorem rel13_trace (c : PCfg) (hK : 0 < c.K) (evs : List Ev) (hlen : evs.length ≤ garbage) :
    Rel13 (PState.after c (PState.init c) evs) ((PState.trace c (PState.init c) evs).foldl M13.step {}) := by
  have h := trace_fold_inv c M13.step (fun s m => Good c s ∧ (s.n ≤ garbage → Rel13 s m)) (fun _ => True)
    (fun s m e _ ⟨hg, hr⟩ => ⟨good_step c s e hg, fun hn =>
      step_rel13 c s m e hg hn (hr (by rw [step_n] at hn; omega))⟩)
    evs (PState.init c) {} (fun _ _ => trivial) ⟨good_init c hK, fun _ => ⟨rfl, rfl⟩⟩
  refine h.2 ?_
  rw [after_n]
  exact Nat.le_trans (Nat.zero_add _ ▸ List.length_filter_le ..) hlen

theorem c13_bounded (c : PCfg) (hK : 0 < c.K) (evs : List Ev) (hlen : evs.length ≤ garbage) :
    monC13 (PState.trace c (PState.init c) evs) = [] :=
  (rel13_trace c hK evs hlen).2

@[simp] theorem obsOf_nil (k : Sink) : obsOf k [] = [] := rfl
@[simp] theorem obsOf_append (k : Sink) (a b : List Obs) : obsOf k (a ++ b) = obsOf k a ++ obsOf k b :=
  List.filter_append ..
@[simp] theorem sinkFault_nil : sinkFault [] = false := rfl
@[simp] theorem sinkFault_append (a b : List Obs) : sinkFault (a ++ b) = (sinkFault a || sinkFault b) :=
  List.any_append

/-- the observation list touches neither the continuous nor the test sink -/
def MotOnly (obs : List Obs) : Prop :=
  obsOf .const obs = [] ∧ obsOf .test obs = [] ∧ sinkFault obs = false

theorem motOnly_append {a b : List Obs} (ha : MotOnly a) (hb : MotOnly b) : MotOnly (a ++ b) := by
  obtain ⟨a1, a2, a3⟩ := ha
  obtain ⟨b1, b2, b3⟩ := hb
  simp [MotOnly, a1, a2, a3, b1, b2, b3]

theorem pStop_motOnly (f : Faults) (s : PState) : MotOnly (pStop f s).2 := by
  rw [pStop_eq]; split <;> exact ⟨rfl, rfl, rfl⟩

theorem process_motOnly (c : PCfg) (s : PState) (motion : Bool) (f : Faults) :
    MotOnly (process c s motion f).2 := by
  rcases process_cases c s motion f with ⟨hr, e⟩ | ⟨hr, hs, q, hq, e⟩ | ⟨hr, _, hs, e⟩ <;> rw [e]
  · cases motion <;> exact motOnly_append ⟨rfl, rfl, rfl⟩ (pStop_motOnly ..)
  · cases hq <;> exact ⟨rfl, rfl, rfl⟩
  · refine motOnly_append (motOnly_append (motOnly_append ⟨rfl, rfl, rfl⟩ ?_) ⟨rfl, rfl, rfl⟩) (pStop_motOnly ..)
    refine ⟨List.filter_eq_nil_iff.2 ?_, List.filter_eq_nil_iff.2 ?_, List.any_eq_false.2 ?_⟩ <;> intro o ho <;>
      rcases mem_preRun ho with ⟨_, rfl⟩ | ⟨_, _, _, _, _, rfl, _⟩ <;> exact Bool.false_ne_true

theorem obsOf_of_calls {k : Sink} {l : List Obs} (h : ∀ o ∈ l, ∃ cl ok, o = Obs.call k cl ok) :
    obsOf k l = l ∧ ∀ k', k' ≠ k → obsOf k' l = [] := by
  refine ⟨List.filter_eq_self.2 fun o ho => ?_, fun k' hk' => List.filter_eq_nil_iff.2 fun o ho => ?_⟩ <;>
    obtain ⟨cl, ok, rfl⟩ := h o ho
  · exact beq_self_eq_true k
  · simpa using fun e => hk' e.symm

/-- One frame on a file sink without a fault: every call succeeds, so the calls are the fault-free layout and a
file that is due does get opened. -/
theorem cycleObs_noFault {k : Sink} (hk : k ≠ .motion) (id : Nat) (wasOpen starting sOk wOk full eOk : Bool)
    (h : sinkFault (cycleObs k id wasOpen starting sOk wOk full eOk) = false) :
    cycleObs k id wasOpen starting sOk wOk full eOk = cycleObs k id wasOpen starting true true full true ∧
    (wasOpen || starting && sOk) = (wasOpen || starting) ∧ ((wasOpen || starting) && full && !eOk) = false := by
  have ok : ∀ cl b, Obs.call k cl b ∈ cycleObs k id wasOpen starting sOk wOk full eOk → b = true := by
    intro cl b hb
    have := List.any_eq_false.1 h _ hb
    cases k <;> first | exact absurd rfl hk | (cases b <;> simp_all)
  unfold cycleObs at ok ⊢
  cases starting
  · cases wasOpen
    · simp
    · have h1 := ok (.write id) wOk (by simp)
      cases full
      · simp [h1]
      · simp [h1, ok .stop eOk (by simp)]
  · have h0 := ok .start sOk (by simp)
    subst h0
    have h1 := ok (.write id) wOk (by simp)
    cases full
    · simp [h1]
    · simp [h1, ok .stop eOk (by simp)]

/-- monitor state ↔ model state; nothing is claimed about the bookkeeping once tainted -/
def Rel17 (c : PCfg) (s : PState) (m : M17) : Prop :=
  m.fails = [] ∧ (m.tainted = false →
    m.n = s.n ∧ m.cPos = s.crFrames ∧ (c.constOn = false → s.crFrames = 0) ∧
    m.tOpen = s.snapRec ∧ m.tCount = s.snapFrames ∧ m.pending = s.startSnap)

/-- what the continuous and the test sink see of one frame -/
theorem step_frame_sinks (c : PCfg) (s : PState) (mo : Bool) (f : Faults) :
    obsOf .const (PState.step c s (.frame mo f)).2 = constObs c s.crFrames s.n f ∧
    obsOf .test (PState.step c s (.frame mo f)).2 = testObs c s s.n f ∧
    sinkFault (PState.step c s (.frame mo f)).2 =
      (sinkFault (constObs c s.crFrames s.n f) || sinkFault (testObs c s s.n f)) := by
  obtain ⟨p1, p2, p3⟩ := process_motOnly c (pre s) mo f
  obtain ⟨c1, c2⟩ := obsOf_of_calls (cycleObs_calls .const s.n (c.constOn && decide (s.crFrames ≠ 0))
    (c.constOn && decide (s.crFrames = 0)) f.cStart f.cWrite (decide (s.crFrames + 1 > c.maxF)) f.cStop)
  obtain ⟨t1, t2⟩ := obsOf_of_calls (cycleObs_calls .test s.n s.snapRec (s.startSnap && !s.snapRec)
    f.tStart f.tWrite (testFull c s) f.tStop)
  rw [step_frame]
  simp only [obsOf_append, sinkFault_append, p1, p2, p3, constObs, testObs, c1, t1, c2 .test (by decide),
    t2 .const (by decide), List.nil_append, List.append_nil, Bool.false_or, and_self]

/-- the calls the C17 monitor expects on either sink for a frame are those of one recorder cycle in which
nothing fails -/
theorem M17.expC_eq (c : PCfg) (m : M17) :
    M17.expC c m = cycleObs .const m.n (c.constOn && decide (m.cPos ≠ 0)) (c.constOn && decide (m.cPos = 0))
      true true (decide (m.cPos + 1 > c.maxF)) true := by
  cases hc : c.constOn
  · simp [M17.expC, cycleObs, hc]
  · by_cases h : m.cPos = 0 <;> simp [M17.expC, cycleObs, hc, h]

theorem M17.expT_eq (c : PCfg) (m : M17) :
    M17.expT c m = cycleObs .test m.n m.tOpen (M17.tStarting m) true true
      (decide (M17.tCountNow m > c.testLast)) true := by
  simp [M17.expT, cycleObs, M17.tClosing, M17.tOpenNow]

/-- what the continuous sink sees of a rejected frame, and the fields the two recorders keep -/
theorem step_bad_sinks (c : PCfg) (s : PState) (f : Faults) :
    obsOf .const (PState.step c s (.bad f)).2 = (if c.constOn then [Obs.call .const .stop f.cStop] else []) ∧
    sinkFault (PState.step c s (.bad f)).2 = (c.constOn && !f.cStop) ∧
    (PState.step c s (.bad f)).1.n = s.n ∧
    (PState.step c s (.bad f)).1.crFrames = (if c.constOn then 0 else s.crFrames) ∧
    (PState.step c s (.bad f)).1.snapRec = s.snapRec ∧ (PState.step c s (.bad f)).1.snapFrames = s.snapFrames ∧
    (PState.step c s (.bad f)).1.startSnap = s.startSnap := by
  rw [step_bad]
  refine ⟨?_, ?_, ?_⟩
  · cases s.isRec <;> cases c.constOn <;> rfl
  · cases s.isRec <;> cases c.constOn <;> cases f.cStop <;> rfl
  · split <;> exact ⟨rfl, rfl, rfl, rfl, rfl⟩

/-- A tainted monitor or a faulty step needs no case analysis (`M17.step_taint`); otherwise the monitor's fields are
the model's and every call of the step succeeded. -/
theorem step_rel17 (c : PCfg) (s : PState) (m : M17) (e : Ev) (hr : Rel17 c s m) :
    Rel17 c (PState.step c s e).1 (M17.step c m ⟨e, (PState.step c s e).2⟩) := by
  obtain ⟨hf, ht⟩ := hr
  by_cases hbad : m.tainted = true ∨ sinkFault (PState.step c s e).2 = true
  · obtain ⟨a, b⟩ := M17.step_taint c m ⟨e, (PState.step c s e).2⟩ hbad
    exact ⟨b.trans hf, fun h => absurd (a.symm.trans h) (by simp)⟩
  obtain ⟨htt, hs⟩ : m.tainted = false ∧ sinkFault (PState.step c s e).2 = false := by simpa using hbad
  obtain ⟨hn, hc, h0, ho, hcnt, hp⟩ := ht htt
  cases e with
  | frame mo f =>
    obtain ⟨oc, ot, osf⟩ := step_frame_sinks c s mo f
    obtain ⟨hsc, hst⟩ := Bool.or_eq_false_iff.mp (osf.symm.trans hs)
    obtain ⟨c4, c5, _⟩ := cycleObs_noFault (k := .const) (by decide) _ _ _ _ _ _ _ hsc
    obtain ⟨t4, t5, t6⟩ := cycleObs_noFault (k := .test) (by decide) _ _ _ _ _ _ _ hst
    have hC : constObs c s.crFrames s.n f = M17.expC c m := by
      rw [constObs, c4, M17.expC_eq, hc, hn]
    have hT : testObs c s s.n f = M17.expT c m := by
      rw [testObs, t4, M17.expT_eq, M17.tCountNow, M17.tOpenNow, M17.tStarting, ho, hp, hcnt, hn, testFull]
      cases s.snapRec <;> cases s.startSnap <;> rfl
    rw [M17.step_frame c m mo f _ hs, oc, ot, step_frame]
    refine ⟨by simp [hf, hC, hT], fun _ => ⟨congrArg (· + 1) hn, ?_, ?_, ?_, ?_, rfl⟩⟩
    · simp only [M17.nextCPos, constNext, constOpen, c5, hc]
      cases hcon : c.constOn
      · simp [h0 hcon]
      · by_cases h1 : s.crFrames = 0 <;> simp [h1]
    · intro hcon
      simp [constNext, constOpen, hcon, h0 hcon]
    · simp only [M17.tClosing, M17.tCountNow, M17.tOpenNow, M17.tStarting, ho, hp, hcnt, testOpen, t5, testFull]
      cases s.snapRec <;> cases s.startSnap <;> simp
    · simp only [M17.tClosing, M17.tCountNow, M17.tOpenNow, M17.tStarting, ho, hp, hcnt, testOpen, t5, testFull] at t6 ⊢
      generalize (s.snapRec || s.startSnap && !s.snapRec) = isOpen at t6 ⊢
      cases isOpen
      · rfl
      · -- a full file is closed, and the stop did not fail (`t6`), so the count starts again
        by_cases hfull : s.snapFrames + 1 > c.testLast <;> simp [hfull] at t6 ⊢
        exact t6
  | bad f =>
    obtain ⟨oc, osf, sn, scr, srec, scnt, sst⟩ := step_bad_sinks c s f
    rw [osf] at hs
    rw [M17.step_bad c m f _ (osf.trans hs), oc, hf, htt]
    refine ⟨?_, fun _ => ⟨hn.trans sn.symm, ?_, ?_, ho.trans srec.symm, hcnt.trans scnt.symm, hp.trans sst.symm⟩⟩
    · -- no fault: the stop, if there was one, succeeded, and that is what the monitor expects
      cases hcon : c.constOn
      · rfl
      · rw [hcon] at hs; rw [show f.cStop = true by simpa using hs]; rfl
    · rw [scr]
      cases hcon : c.constOn
      · exact (h0 hcon).symm
      · rfl
    · intro hcon; rw [scr, hcon]; exact h0 hcon
  | reset f =>
    rw [M17.step_reset c m f _ hs, step_reset]
    split <;> exact ⟨hf, fun _ => ⟨hn, hc, h0, ho, hcnt, hp⟩⟩
  | testReq =>
    rw [M17.step_testReq c m _ hs]
    split
    · exact ⟨hf, fun h => absurd h (by simp)⟩
    · exact ⟨hf, fun _ => ⟨hn, hc, h0, ho, hcnt, rfl⟩⟩

theorem c17_all (c : PCfg) (evs : List Ev) : monC17 c (PState.trace c (PState.init c) evs) = [] :=
  (trace_fold_inv c (M17.step c) (Rel17 c) (fun _ => True) (fun s m e _ => step_rel17 c s m e) evs
    (PState.init c) {} (fun _ _ => trivial) ⟨rfl, fun _ => ⟨rfl, rfl, fun _ => rfl, rfl, rfl, rfl⟩⟩).1

/-! ## the length bound in `c13_bounded` is needed

Frame ids are frame indices and the monitor uses the id `garbage` as the "rejected content"
sentinel, so the frame with index `garbage` itself (the 4 000 000 001st accepted frame, ≈ 14 years
at 9 fps) is flagged when the continuous recorder writes it.  This is an artefact of the id
encoding, not of the processor; it is recorded here so that the hypothesis is not dropped silently. -/

/-- with the continuous recorder on, the run of `garbage + 1` plain frames is flagged (stated with
a variable `n = garbage` so that nothing ever evaluates a four-billion-element list) -/
theorem c13_needs_bound (c : PCfg) (hc : c.constOn = true) (n : Nat) (hn : n = garbage) :
    monC13 (PState.trace c (PState.init c) (List.replicate (n + 1) (Ev.frame false {}))) ≠ [] := by
  rw [List.replicate_succ', trace_append]
  simp only [monC13, List.foldl_append, PState.trace, List.foldl_cons, List.foldl_nil, PState.step]
  have h1 := after_n c (List.replicate n (Ev.frame false {})) (PState.init c)
  generalize PState.after c (PState.init c) (List.replicate n (Ev.frame false {})) = s at *
  generalize List.foldl M13.step {} _ = m
  have hn' : s.n = garbage := by
    rw [h1, ← hn, List.filter_eq_self.2 fun e he => by rw [List.eq_of_mem_replicate he]; rfl]
    simp [PState.init]
  have hw : writesGarbage (processFrame c s false {}).2 = true := by
    rw [processFrame_parts, hn']
    cases hcr : s.crFrames <;> simp [constObs, cycleObs, hc]
  simp [M13.step, hw]

end TR
