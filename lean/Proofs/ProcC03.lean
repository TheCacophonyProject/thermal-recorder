import Proofs.ProcObs
import Proofs.MonStep
/-!
# Proofs.ProcC03 — the invariants behind C03 (recording length) and C04 (start condition)

The monitor side of a step comes from the step equations of `Proofs.MonStep` (`M4.step_open`, `M4.step_run`,
`M4.step_fails`; `M3.step_frame_idle`, `M3.step_frame_rec`, …; on the events that are not frames `i4_step`
evaluates `M4.step` itself), the model side from `frame_summary` and its two cases `frame_rec`, `frame_idle`
(`Proofs.ProcObs`).  Last, `sustained` follows the model through `maxF` motion frames in a row.
-/
namespace TR.P03

theorem attempt_pre (c : PCfg) (s : PState) (motion : Bool) : attempt c (pre s) motion = attempt c s motion := rfl
theorem starts_pre (c : PCfg) (s : PState) (motion : Bool) (f : Faults) :
    starts c (pre s) motion f = starts c s motion f := rfl

/-- The C04 monitor follows the model: its flag is `isRec`, and while no recording is open its run of motion
frames is the model's `triggered` (which is what both compare with `trig` to decide whether a start is due). -/
structure I4 (s : PState) (m : M4) : Prop where
  fails : m.fails = []
  openEq : m.openRec = s.isRec
  runEq : s.isRec = false → m.run = s.triggered

theorem i4_frame (c : PCfg) (s : PState) (m : M4) (motion : Bool) (f : Faults) (h : I4 s m) :
    I4 (PState.step c s (.frame motion f)).1
       (M4.step c.trig m ⟨.frame motion f, (PState.step c s (.frame motion f)).2⟩) := by
  obtain ⟨hf, ho, hr⟩ := h
  obtain ⟨f2, f1, f6, f9, _, _⟩ := frame_summary c s motion f
  obtain ⟨f3, f4⟩ := frame_consults c s motion f
  refine ⟨(M4.step_fails ..).mpr ⟨hf, ?_⟩, (M4.step_open ..).trans ?_, fun hn => (M4.step_run ..).trans ?_⟩
  · -- the monitor's "attempt" is the model's: while no recording is open its run is `triggered`
    have hatt : C04Spec.attemptB c.trig m.openRec m.run motion = attempt c s motion := by
      rw [C04Spec.attemptB, attempt, ho]
      cases hA : s.isRec
      · rw [hr hA]; cases motion <;> rfl
      · rfl
    simp only [C04Spec.stepOk, hatt, f2, f3, f4, starts, attempt_pre, Bool.and_eq_true, decide_eq_true_iff, and_assoc,
      iff_self, imp_self, and_self]
  · rw [f6, C04Spec.nextOpen, Step.startsRec, Step.endsRec, f1, f2, ho]; rfl
  · rw [f6] at hn
    rw [f9, C04Spec.nextRun, C04Spec.resetsRun, Step.startsRec, Step.endsRec, f1, f2, ho]
    show (if (!motion || (rec1 c (pre s) motion f && stops c (pre s) motion f)) = true then 0 else _) = _
    cases hst : stops c (pre s) motion f
    · -- the frame is not the last of a recording, so none is open: the monitor's run is `triggered`
      rw [hst, Bool.not_false, Bool.and_true] at hn
      rw [hn, hr (Bool.or_eq_false_iff.mp hn).1]
      cases motion <;> rfl
    · rw [(Bool.and_eq_true_iff.mp hst).1]
      cases motion <;> rfl

theorem i4_step (c : PCfg) (s : PState) (m : M4) (ev : Ev) (h : I4 s m) :
    I4 (PState.step c s ev).1 (M4.step c.trig m ⟨ev, (PState.step c s ev).2⟩) := by
  cases ev with
  | frame motion f => exact i4_frame c s m motion f h
  | bad f =>
    obtain ⟨hf, ho, hr⟩ := h
    rw [step_bad]
    split <;> constructor <;> simp_all [M4.step]
  | reset f =>
    obtain ⟨hf, ho, hr⟩ := h
    rw [step_reset]
    split <;> constructor <;> simp_all [M4.step]
  | testReq => exact ⟨h.fails, h.openEq, h.runEq⟩

theorem i4_init (c : PCfg) : I4 (PState.init c) {} := by
  constructor <;> simp [PState.init]

theorem i4_trace (c : PCfg) (evs : List Ev) (s : PState) (m : M4) (h : I4 s m) :
    I4 (PState.after c s evs) ((PState.trace c s evs).foldl (M4.step c.trig) m) :=
  trace_fold_inv c (M4.step c.trig) I4 (fun _ => True) (fun s m e _ => i4_step c s m e) evs s m (fun _ _ => trivial) h

/-- The C03 monitor follows the model while no motion-sink write fails.  `ring` and `idle` are invariants of the
model alone, carried along because a start needs them (`wu1_start`; the counters stand at 0). -/
structure I3 (c : PCfg) (s : PState) (m : M3) : Prop where
  ring : Good c s
  taint : m.tainted = false
  fails : m.fails = []
  openEq : m.openRec = s.isRec
  idle : Idle0 s
  /-- the content of C03: in an open recording `framesWritten` is the monitor's count `p`, `writeUntil` is the
  length the monitor computes from its last motion frame `l`, and that length is not reached yet -/
  recd : s.isRec = true → s.framesWritten = m.p ∧ s.writeUntil = min c.maxF (m.l - 1 + c.minF) ∧ m.p < s.writeUntil

/-- a successful start sets `writeUntil` to `minF` (the pre-trigger writes cannot fail) -/
theorem wu1_start {c : PCfg} {s : PState} {motion : Bool} {f : Faults} (hg : Good c s) (hfz : f.mWriteFail = 0)
    (hrec : s.isRec = false) (hS : starts c (pre s) motion f = true) : wu1 c (pre s) motion f = c.minF := by
  simp [wu1, hS, preRun_good hg hfz, hrec]

theorem i3_frame (c : PCfg) (hmm : c.minF ≤ c.maxF) (s : PState) (m : M3) (motion : Bool) (f : Faults)
    (hfz : f.mWriteFail = 0) (h : I3 c s m) :
    I3 c (PState.step c s (.frame motion f)).1
       (M3.step c.minF c.maxF m ⟨.frame motion f, (PState.step c s (.frame motion f)).2⟩) := by
  obtain ⟨hg, ht, hf, ho, hidle, hrec⟩ := h
  have h1 := (frame_summary c s motion f).1
  have hnf : Step.motionWriteFault ⟨.frame motion f, (PState.step c s (.frame motion f)).2⟩ = false :=
    step_mwf c s (.frame motion f) hfz
  have hgood := good_step c s (.frame motion f) hg
  have hidle' := idle0_step c s (.frame motion f) hidle
  cases hR : rec1 c (pre s) motion f with
  | false =>
    obtain ⟨hA, hS⟩ := Bool.or_eq_false_iff.mp hR
    obtain ⟨h3, _⟩ := frame_idle c s motion f hR
    rw [M3.step_frame_idle _ _ m motion f _ hnf (h1.trans hS) (ho.trans hA)]
    exact ⟨hgood, ht, hf, (ho.trans hA).trans h3.symm, hidle', fun hn => absurd (h3.symm.trans hn) (by simp)⟩
  | true =>
    obtain ⟨h2, h3, h5, h6⟩ := frame_rec c s motion f hR
    -- a trigger frame is a frame of an open recording whose counters stand at 0
    obtain ⟨p0, l0, hM, hfw, hW⟩ : ∃ p0 l0,
        (hasStartOk (PState.step c s (.frame motion f)).2 = true ∧ p0 = 0 ∧ l0 = 0 ∨
         hasStartOk (PState.step c s (.frame motion f)).2 = false ∧ m.openRec = true ∧ p0 = m.p ∧ l0 = m.l) ∧
        s.framesWritten = p0 ∧
        wu1 c (pre s) motion f = min c.maxF ((if motion then p0 + 1 else l0) - 1 + c.minF) := by
      cases hS : starts c (pre s) motion f with
      | true =>
        obtain ⟨hA, rfl⟩ : s.isRec = false ∧ motion = true := starts_true hS
        refine ⟨0, 0, .inl ⟨h1.trans hS, rfl, rfl⟩, (hidle hA).1, ?_⟩
        rw [wu1_start hg hfz hA hS]
        show c.minF = min c.maxF (0 + 1 - 1 + c.minF)
        omega
      | false =>
        have hA : s.isRec = true := by rw [rec1, hS, Bool.or_false] at hR; exact hR
        obtain ⟨hp, hwu, _⟩ := hrec hA
        refine ⟨m.p, m.l, .inr ⟨h1.trans hS, ho.trans hA, rfl, rfl⟩, hp, ?_⟩
        rw [wu1, pre_isRec, hA, pre_framesWritten, pre_writeUntil, hp, hwu]
        cases motion
        · rfl
        · show min (m.p + c.minF) c.maxF = min c.maxF (m.p + 1 - 1 + c.minF)
          rw [Nat.add_sub_cancel, Nat.min_comm]
    rw [M3.step_frame_rec _ _ m motion f _ hnf ht p0 l0 hM]
    rw [hW, hfw] at h2 h3 h5 h6
    refine ⟨hgood, ht, ?_, ?_, hidle', ?_⟩
    · show m.fails ++ _ = []
      rw [hf, List.nil_append, M3.verdict_nil, h2, decide_eq_true_iff]
    · show (!hasStop _) = _
      rw [h2, h3]
    · intro hn
      rw [h3, Bool.not_eq_true', decide_eq_false_iff_not] at hn
      rw [h5, h6, if_neg hn, if_neg hn]
      exact ⟨rfl, rfl, Nat.lt_of_not_le hn⟩

theorem i3_step (c : PCfg) (hmm : c.minF ≤ c.maxF) (s : PState) (m : M3) (ev : Ev)
    (hfz : ev.faults.mWriteFail = 0) (h : I3 c s m) :
    I3 c (PState.step c s ev).1 (M3.step c.minF c.maxF m ⟨ev, (PState.step c s ev).2⟩) := by
  have hnf : Step.motionWriteFault ⟨ev, (PState.step c s ev).2⟩ = false := step_mwf c s ev hfz
  cases ev with
  | frame motion f => exact i3_frame c hmm s m motion f hfz h
  | bad f =>
    have hr : (PState.step c s (.bad f)).1.isRec = false := by rw [step_bad]; cases s.isRec <;> rfl
    rw [M3.step_bad _ _ m f _ hnf]
    exact ⟨good_step c s _ h.ring, h.taint, h.fails, hr.symm, idle0_step c s _ h.idle,
      fun hn => absurd (hr.symm.trans hn) (by simp)⟩
  | reset f =>
    have hr : (PState.step c s (.reset f)).1.isRec = false := by rw [step_reset]; cases hA : s.isRec <;> first | rfl | exact hA
    rw [M3.step_reset _ _ m f _ hnf]
    exact ⟨good_step c s _ h.ring, h.taint, h.fails, hr.symm, idle0_step c s _ h.idle,
      fun hn => absurd (hr.symm.trans hn) (by simp)⟩
  | testReq =>
    rw [M3.step_testReq _ _ m _ rfl]
    exact ⟨h.ring, h.taint, h.fails, h.openEq, h.idle, h.recd⟩

theorem i3_init (c : PCfg) (hK : 0 < c.K) : I3 c (PState.init c) {} := by
  refine ⟨good_init c hK, rfl, rfl, rfl, fun _ => ⟨rfl, rfl⟩, fun h => ?_⟩
  cases h

theorem i3_trace (c : PCfg) (hmm : c.minF ≤ c.maxF) (evs : List Ev) (s : PState) (m : M3)
    (hw : ∀ ev ∈ evs, ev.faults.mWriteFail = 0) (h : I3 c s m) :
    I3 c (PState.after c s evs) ((PState.trace c s evs).foldl (M3.step c.minF c.maxF) m) :=
  trace_fold_inv c (M3.step c.minF c.maxF) (I3 c) (·.faults.mWriteFail = 0) (i3_step c hmm) evs s m hw h

theorem rec_motion_step (c : PCfg) (s : PState) (f : Faults) (hrec : s.isRec = true) :
    hasStartOk (PState.step c s (.frame true f)).2 = false ∧
    hasStop (PState.step c s (.frame true f)).2
      = decide (min (s.framesWritten + c.minF) c.maxF ≤ s.framesWritten + 1) ∧
    (PState.step c s (.frame true f)).1.isRec
      = !decide (min (s.framesWritten + c.minF) c.maxF ≤ s.framesWritten + 1) ∧
    (PState.step c s (.frame true f)).1.framesWritten
      = if min (s.framesWritten + c.minF) c.maxF ≤ s.framesWritten + 1 then 0 else s.framesWritten + 1 := by
  have hw : wu1 c (pre s) true f = min (s.framesWritten + c.minF) c.maxF := by simp [wu1, pre, hrec]
  obtain ⟨h2, h3, h5, _⟩ := frame_rec c s true f (by simp [rec1, hrec])
  rw [hw] at h2 h3 h5
  refine ⟨?_, h2, h3, h5⟩
  rw [(frame_summary c s true f).1]
  simp [starts, attempt, hrec]

theorem start_step (c : PCfg) (s : PState) (f : Faults) (hg : Good c s)
    (hrec : s.isRec = false) (hfw : s.framesWritten = 0) (htrig : c.trig ≤ s.triggered + 1)
    (hgate : f.win = true ∧ f.can = true ∧ f.mStart = true) (hfz : f.mWriteFail = 0) :
    hasStartOk (PState.step c s (.frame true f)).2 = true ∧
    hasStop (PState.step c s (.frame true f)).2 = decide (c.minF ≤ 1) ∧
    (PState.step c s (.frame true f)).1.isRec = !decide (c.minF ≤ 1) ∧
    (PState.step c s (.frame true f)).1.framesWritten = if c.minF ≤ 1 then 0 else 1 := by
  have hs : starts c (pre s) true f = true := by
    simp [starts, attempt, hrec, htrig, hgate.1, hgate.2.1, hgate.2.2]
  obtain ⟨h2, h3, h5, _⟩ := frame_rec c s true f (by rw [rec1, hs, Bool.or_true])
  rw [wu1_start hg hfz hrec hs, hfw] at h2 h3 h5
  exact ⟨(frame_summary c s true f).1.trans hs, h2, h3, h5⟩

/-- the sustained-motion event -/
abbrev fr : Ev := .frame true {}

theorem rec_run (c : PCfg) (h2 : 2 ≤ c.minF) : ∀ (j : Nat) (s : PState),
    s.isRec = true → s.framesWritten + j < c.maxF →
    (PState.trace c s (List.replicate j fr)).map (fun st => hasStartOk st.obs) = List.replicate j false ∧
    (PState.trace c s (List.replicate j fr)).map (fun st => hasStop st.obs) = List.replicate j false ∧
    (PState.after c s (List.replicate j fr)).isRec = true ∧
    (PState.after c s (List.replicate j fr)).framesWritten = s.framesWritten + j := by
  intro j
  induction j with
  | zero => intro s hrec _; exact ⟨rfl, rfl, hrec, rfl⟩
  | succ j ih =>
    intro s hrec hk
    obtain ⟨a1, a2, a3, a4⟩ := rec_motion_step c s {} hrec
    have hd : ¬ min (s.framesWritten + c.minF) c.maxF ≤ s.framesWritten + 1 := by omega
    simp only [hd, decide_false, Bool.not_false, if_false] at a2 a3 a4
    obtain ⟨b1, b2, b3, b4⟩ := ih (PState.step c s fr).1 a3 (by rw [a4]; omega)
    simp only [List.replicate_succ, PState.trace, PState.after, List.map_cons]
    exact ⟨by rw [b1, a1], by rw [b2, a2], b3, by rw [b4, a4]; omega⟩

/-- sustained motion from a non-recording state whose motion run is about to reach `trig`: the trigger frame,
`j` frames below `maxF = j + 2` (`rec_run`), and the frame that reaches it -/
theorem sustained (c : PCfg) (h2 : 2 ≤ c.minF) (j : Nat) (hj : c.maxF = j + 2) (s : PState) (mark : Nat)
    (hring : RBase c.K s.ring s.n mark) (hrec : s.isRec = false) (hfw : s.framesWritten = 0)
    (htrig : c.trig ≤ s.triggered + 1) :
    (PState.trace c s (List.replicate (j + 2) fr)).map (fun st => hasStartOk st.obs)
      = true :: List.replicate (j + 1) false ∧
    (PState.trace c s (List.replicate (j + 2) fr)).map (fun st => hasStop st.obs)
      = List.replicate (j + 1) false ++ [true] ∧
    (∀ i, 1 ≤ i → i ≤ j + 1 → (PState.after c s (List.replicate i fr)).isRec = true ∧
      (PState.after c s (List.replicate i fr)).framesWritten = i) ∧
    (PState.after c s (List.replicate (j + 2) fr)).isRec = false := by
  obtain ⟨a1, a2, a3, a4⟩ := start_step c s {} ⟨mark, hring⟩ hrec hfw htrig ⟨rfl, rfl, rfl⟩ rfl
  have hd : ¬ c.minF ≤ 1 := by omega
  simp only [hd, decide_false, Bool.not_false, if_false] at a2 a3 a4
  -- after the trigger frame: `j` frames, then the last one
  obtain ⟨b1, b2, b3, b4⟩ := rec_run c h2 j (PState.step c s fr).1 a3 (by rw [a4]; omega)
  obtain ⟨e1, e2, e3, _⟩ := rec_motion_step c (PState.after c (PState.step c s fr).1 (List.replicate j fr)) {} b3
  have hl : min (1 + j + c.minF) c.maxF ≤ 1 + j + 1 := by omega
  rw [b4, a4] at e2 e3
  simp only [hl, decide_true, Bool.not_true] at e2 e3
  have hsplit : List.replicate (j + 2) fr = fr :: (List.replicate j fr ++ [fr]) := by
    rw [List.replicate_succ, List.replicate_succ']
  refine ⟨?_, ?_, ?_, ?_⟩
  · rw [hsplit, PState.trace, trace_snoc, List.map_cons, List.map_append, b1, a1, List.replicate_succ']
    exact congrArg (true :: List.replicate j false ++ [·]) e1
  · rw [hsplit, PState.trace, trace_snoc, List.map_cons, List.map_append, b2, a2, List.replicate_succ]
    exact congrArg (false :: List.replicate j false ++ [·]) e2
  · intro i h1 hi
    obtain ⟨i, rfl⟩ : ∃ i', i = i' + 1 := ⟨i - 1, by omega⟩
    obtain ⟨_, _, x3, x4⟩ := rec_run c h2 i (PState.step c s fr).1 a3 (by rw [a4]; omega)
    rw [List.replicate_succ, PState.after]
    exact ⟨x3, by rw [x4, a4]; omega⟩
  · rw [hsplit, PState.after, after_append]
    exact e3

end TR.P03
