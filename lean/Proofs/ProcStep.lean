import TR.ProcMon
import Proofs.ProcBase
/-!
# Proofs.ProcStep — one processor step, characterised once

`process`, `stopRecording`, `processConstantRecorder` and `processSnapshot` are analysed by cases here and
nowhere else; other modules read the statements below (at most they unfold the sequencing in `processFrame` /
`processBad`).

* `process` (the motion path) runs on `pre s`, touches only the five recording fields and has three
  cases (`process_cases`): a recording is open; none is open and none starts (the observations are one
  of the four `Refusal` lists); one starts.  The first and the last end in `pStop` (`Move`, then stop if
  long enough), which has two cases (`pStop_eq`).  What `recordPreTriggerFrames` writes at a start is `preRun`
  (`mem_preRun`; `preTrigger_ok` when no write is made to fail).
* `processConstantRecorder` and `processSnapshot` are functions of their own fields alone
  (`processConstantRecorder_eq`, `processSnapshot_eq`, with the common per-frame shape `cycleObs`): the three
  recorders are independent machines.
* `processFrame_parts` puts the three together (`step_frame` as an equation of `PState.step`); `step_bad`,
  `step_reset` are the other events.
* `Good`: the ring of a reachable state refines the list of accepted frame ids (`good_step`).
* `trace_fold_inv` is the induction over event lists used by every monitor theorem.

`P03` groups the summaries and invariants behind C03 / C04, `P01` those behind C01 / C02; the rest of a step is in
`TR`, and the split has no further meaning.
-/
namespace TR
open PState

@[simp] theorem andThen_fst (r : R) (g : PState → R) : (andThen r g).1 = (g r.1).1 := rfl
@[simp] theorem andThen_snd (r : R) (g : PState → R) : (andThen r g).2 = r.2 ++ (g r.1).2 := rfl

namespace P03

/-- a start is attempted on this frame: no recording is open, the frame shows motion and it is at least the
`trig`-th motion frame in a row (`triggered` counts those before it) -/
def attempt (c : PCfg) (s : PState) (motion : Bool) : Bool :=
  !s.isRec && motion && decide (c.trig ≤ s.triggered + 1)

/-- the state `process` runs on: the frame has been parsed into the current slot -/
def pre (s : PState) : PState := { s with ring := s.ring.write s.n }

@[simp] theorem pre_ring (s : PState) : (pre s).ring = s.ring.write s.n := rfl
@[simp] theorem pre_n (s : PState) : (pre s).n = s.n := rfl
@[simp] theorem pre_isRec (s : PState) : (pre s).isRec = s.isRec := rfl
@[simp] theorem pre_framesWritten (s : PState) : (pre s).framesWritten = s.framesWritten := rfl
@[simp] theorem pre_writeUntil (s : PState) : (pre s).writeUntil = s.writeUntil := rfl
@[simp] theorem pre_triggered (s : PState) : (pre s).triggered = s.triggered := rfl
@[simp] theorem pre_crFrames (s : PState) : (pre s).crFrames = s.crFrames := rfl
@[simp] theorem pre_startSnap (s : PState) : (pre s).startSnap = s.startSnap := rfl
@[simp] theorem pre_snapRec (s : PState) : (pre s).snapRec = s.snapRec := rfl
@[simp] theorem pre_snapFrames (s : PState) : (pre s).snapFrames = s.snapFrames := rfl

end P03

namespace P01

/-- the observations that open a recording -/
abbrev startPre : List Obs := [Obs.md, Obs.call .motion .can true, Obs.call .motion .start true, Obs.rs]

end P01

open P03 (attempt pre)
open P01 (startPre)

theorem stopRecording_idle {s : PState} (h : s.isRec = false) (ok : Bool) : s.stopRecording ok = (s, []) := by
  simp only [stopRecording, h, Bool.not_false, if_true]

theorem stopRecording_rec {s : PState} (h : s.isRec = true) (ok : Bool) :
    s.stopRecording ok =
      ({ s with framesWritten := 0, writeUntil := 0, isRec := false, triggered := 0, ring := s.ring.setAsOldest },
       [Obs.re, Obs.call .motion .stop ok]) := by
  simp only [stopRecording, h, Bool.not_true, Bool.false_eq_true, if_false]

/-- `Move`, then stop when `framesWritten ≥ writeUntil` -/
def pStop (f : Faults) (s : PState) : R :=
  if s.isRec && decide (s.framesWritten ≥ s.writeUntil) then
    ({ s with ring := s.ring.move } : PState).stopRecording f.mStop
  else ({ s with ring := s.ring.move }, [])

/-- does `pStop` end the recording? -/
def stopsNow (s : PState) : Bool := s.isRec && decide (s.writeUntil ≤ s.framesWritten)

theorem pStop_eq (f : Faults) (s : PState) :
    pStop f s =
      if stopsNow s then
        ({ s with framesWritten := 0, writeUntil := 0, isRec := false, triggered := 0,
                  ring := s.ring.move.setAsOldest }, [Obs.re, Obs.call .motion .stop f.mStop])
      else ({ s with ring := s.ring.move }, []) := by
  unfold pStop stopsNow
  split
  · next h =>
    rw [stopRecording_rec (by simpa using (Bool.and_eq_true_iff.mp h).1)]
  · rfl

/-- a start is attempted and every gate lets it through -/
def starts (c : PCfg) (s : PState) (motion : Bool) (f : Faults) : Bool :=
  attempt c s motion && f.win && f.can && f.mStart

theorem starts_true {c : PCfg} {s : PState} {motion : Bool} {f : Faults} (h : starts c s motion f = true) :
    s.isRec = false ∧ motion = true := by
  simp only [starts, attempt, Bool.and_eq_true, Bool.not_eq_true'] at h
  exact ⟨h.1.1.1.1.1, h.1.1.1.1.2⟩

/-- the observations of a frame on which no recording is open and none starts, with the reason -/
inductive Refusal (c : PCfg) (s : PState) (f : Faults) : Bool → List Obs → Prop
  | still : Refusal c s f false []
  | quiet : (attempt c s true && f.win) = false → Refusal c s f true [Obs.md]   -- run too short, or window closed
  | disk : attempt c s true = true → f.win = true → f.can = false →
      Refusal c s f true [Obs.md, Obs.call .motion .can false]
  | file : attempt c s true = true → f.win = true → f.can = true → f.mStart = false →
      Refusal c s f true [Obs.md, Obs.call .motion .can true, Obs.call .motion .start false]

/-- `recordPreTriggerFrames` at a successful start: observations, success, number of writes issued -/
def preRun (s : PState) (f : Faults) : List Obs × Bool × Nat :=
  match s.ring.history with
  | none => ([Obs.panic], false, 0)
  | some h => preTrigger f.mWriteFail h.dropLast 0

/-- the write of the frame itself, the `k+1`-th on the motion sink in this event -/
abbrev wObs (id k : Nat) (f : Faults) : Obs := Obs.call .motion (.write id) (decide (k + 1 ≠ f.mWriteFail))

/-- what `recordPreTriggerFrames` emits: writes on the motion sink, of frames of the history, and one fails only
if the fault record names a failing write (or `panic`, on a ring without history — for reachable states only
when `K = 0`) -/
theorem mem_preRun {s : PState} {f : Faults} {o : Obs} (h : o ∈ (preRun s f).1) :
    s.ring.history = none ∧ o = .panic ∨ ∃ hist, s.ring.history = some hist ∧ ∃ id ∈ hist.dropLast, ∃ ok,
      o = .call .motion (.write id) ok ∧ (ok = false → f.mWriteFail ≠ 0) := by
  have key : ∀ (ids : List Nat) (k : Nat), o ∈ (preTrigger f.mWriteFail ids k).1 →
      ∃ id ∈ ids, ∃ ok, o = .call .motion (.write id) ok ∧ (ok = false → f.mWriteFail ≠ 0) := by
    intro ids
    induction ids with
    | nil => intro k h; cases h
    | cons id rest ih =>
      intro k h
      unfold preTrigger at h
      split at h
      · exact ⟨id, List.mem_cons_self .., false, List.mem_singleton.mp h, fun _ => by omega⟩
      · rcases List.mem_cons.mp h with rfl | h'
        · exact ⟨id, List.mem_cons_self .., true, rfl, nofun⟩
        · obtain ⟨i, hi, r⟩ := ih _ h'
          exact ⟨i, List.mem_cons_of_mem _ hi, r⟩
  unfold preRun at h
  split at h
  · next hh => exact Or.inl ⟨hh, List.mem_singleton.mp h⟩
  · next hist hh => exact Or.inr ⟨hist, hh, key _ _ h⟩

theorem preTrigger_ok (ids : List Nat) (k : Nat) :
    preTrigger 0 ids k = (ids.map fun id => Obs.call .motion (.write id) true, true, k + ids.length) := by
  induction ids generalizing k with
  | nil => rfl
  | cons id rest ih => simp [preTrigger, ih]; omega

theorem process_cases (c : PCfg) (s : PState) (motion : Bool) (f : Faults) :
    (s.isRec = true ∧
      process c s motion f = andThen
        ({ s with triggered := if motion then s.triggered + 1 else 0,
                  writeUntil := if motion then min (s.framesWritten + c.minF) c.maxF else s.writeUntil,
                  framesWritten := s.framesWritten + 1 },
         (if motion then [Obs.md] else []) ++ [wObs s.n 0 f]) (pStop f)) ∨
    (s.isRec = false ∧ starts c s motion f = false ∧ ∃ q, Refusal c s f motion q ∧
      process c s motion f =
        ({ s with triggered := if motion then s.triggered + 1 else 0, ring := s.ring.move }, q)) ∨
    (s.isRec = false ∧ motion = true ∧ starts c s motion f = true ∧
      process c s motion f = andThen
        ({ s with triggered := s.triggered + 1, isRec := true,
                  writeUntil := if (preRun s f).2.1 then c.minF else s.writeUntil,
                  framesWritten := s.framesWritten + 1 },
         startPre ++ (preRun s f).1 ++ [wObs s.n (preRun s f).2.2 f]) (pStop f)) := by
  cases hr : s.isRec
  · right
    cases motion
    · exact .inl ⟨rfl, by simp [starts, attempt], [], .still, by simp [process, hr]⟩
    by_cases ht : s.triggered + 1 < c.trig
    · exact .inl ⟨rfl, by simp [starts, attempt, Nat.not_le.mpr ht], _, .quiet (by simp [attempt, Nat.not_le.mpr ht]),
        by simp [process, hr, ht]⟩
    have ha : attempt c s true = true := by simp [attempt, hr, Nat.not_lt.mp ht]
    cases hw : f.win
    · exact .inl ⟨rfl, by simp [starts, hw], _, .quiet (by simp [hw]), by simp [process, hr, ht, hw]⟩
    cases hc : f.can
    · exact .inl ⟨rfl, by simp [starts, hc], _, .disk ha hw hc, by simp [process, hr, ht, hw, hc]⟩
    cases hm : f.mStart
    · exact .inl ⟨rfl, by simp [starts, hm], _, .file ha hw hc hm, by simp [process, hr, ht, hw, hc, hm]⟩
    refine .inr ⟨rfl, rfl, by simp [starts, ha, hw, hc, hm], ?_⟩
    unfold preRun
    cases hh : s.ring.history with
    | none => simp [process, hr, ht, hw, hc, hm, hh, pStop, andThen]
    | some h =>
      cases hb : (preTrigger f.mWriteFail h.dropLast 0).2.1 <;>
        simp [process, hr, ht, hw, hc, hm, hh, hb, pStop, andThen]
  · left
    cases motion <;> simp [process, hr, pStop, andThen]

/-- the motion path writes the five recording fields only -/
theorem pStop_touches (f : Faults) (s : PState) : ∃ r b fw wu t, (pStop f s).1 =
    { s with ring := r, isRec := b, framesWritten := fw, writeUntil := wu, triggered := t } := by
  rw [pStop_eq]
  split <;> exact ⟨_, _, _, _, _, rfl⟩

theorem process_touches (c : PCfg) (s : PState) (motion : Bool) (f : Faults) :
    ∃ r b fw wu t, (process c s motion f).1 =
      { s with ring := r, isRec := b, framesWritten := fw, writeUntil := wu, triggered := t } := by
  rcases process_cases c s motion f with ⟨_, e⟩ | ⟨_, _, q, _, e⟩ | ⟨_, _, _, e⟩ <;> rw [e]
  case inr.inl => exact ⟨_, _, _, _, _, rfl⟩
  all_goals
    obtain ⟨_, _, _, _, _, h⟩ := pStop_touches f _
    rw [andThen_fst, h]
    exact ⟨_, _, _, _, _, rfl⟩

/-! ## the motion path leaves the other two recorders alone -/

/-- overwrite the fields of the continuous and the test recorder -/
def setOthers (s : PState) (cr : Nat) (a b : Bool) (k : Nat) : PState :=
  { s with crFrames := cr, startSnap := a, snapRec := b, snapFrames := k }

theorem Refusal.unique {c : PCfg} {s s' : PState} {f : Faults} {m : Bool} {q q' : List Obs}
    (ha : attempt c s' true = attempt c s true) (h : Refusal c s f m q) (h' : Refusal c s' f m q') : q = q' := by
  cases h <;> cases h' <;> first | rfl | simp_all

theorem pStop_others (f : Faults) (s : PState) (cr : Nat) (a b : Bool) (k : Nat) :
    pStop f (setOthers s cr a b k) = (setOthers (pStop f s).1 cr a b k, (pStop f s).2) := by
  rw [pStop_eq, pStop_eq]
  show (if stopsNow s then _ else _) = _
  split <;> rfl

theorem others_of_andThen {f : Faults} {p p' r r' : R} {cr : Nat} {a b : Bool} {k : Nat}
    (e : p = andThen r (pStop f)) (e' : p' = andThen r' (pStop f))
    (h1 : r'.1 = setOthers r.1 cr a b k) (h2 : r'.2 = r.2) : p' = (setOthers p.1 cr a b k, p.2) := by
  rw [e, e']
  simp only [andThen, h1, h2, pStop_others]

theorem process_others (c : PCfg) (s : PState) (motion : Bool) (f : Faults) (cr : Nat) (a b : Bool) (k : Nat) :
    process c (setOthers s cr a b k) motion f =
      (setOthers (process c s motion f).1 cr a b k, (process c s motion f).2) := by
  rcases process_cases c s motion f with ⟨hr, e⟩ | ⟨hr, hs, q, hq, e⟩ | ⟨hr, hm, hs, e⟩ <;>
  rcases process_cases c (setOthers s cr a b k) motion f with ⟨hr', e'⟩ | ⟨hr', hs', q', hq', e'⟩ | ⟨hr', hm', hs', e'⟩
  -- the conditions of the three cases read the recording fields only: six of the nine pairs are impossible
  all_goals first
    | exact Bool.noConfusion (hr.symm.trans hr')
    | exact Bool.noConfusion (hs.symm.trans hs')
    | skip
  · exact others_of_andThen e e' rfl rfl
  · have hqq : q = q' := Refusal.unique (s := s) (s' := setOthers s cr a b k) rfl hq hq'
    rw [e, e', hqq]; rfl
  · exact others_of_andThen e e' rfl rfl

/-- One frame on a file sink, the shape the continuous and the test recorder share: open a file if one is
due (`starting`, outcome `sOk`), write the frame if a file is open now, close it if it is `full`. -/
def cycleObs (k : Sink) (id : Nat) (wasOpen starting sOk wOk full eOk : Bool) : List Obs :=
  (if starting then [Obs.call k .start sOk] else []) ++
  (if wasOpen || starting && sOk then [Obs.call k (.write id) wOk] else []) ++
  (if (wasOpen || starting && sOk) && full then [Obs.call k .stop eOk] else [])

theorem cycleObs_calls (k : Sink) (id : Nat) (wasOpen starting sOk wOk full eOk : Bool) :
    ∀ o ∈ cycleObs k id wasOpen starting sOk wOk full eOk, ∃ cl ok, o = Obs.call k cl ok := by
  intro o ho
  simp only [cycleObs, List.mem_append] at ho
  rcases ho with (ho | ho) | ho <;> split at ho <;>
    first | exact ⟨_, _, List.mem_singleton.mp ho⟩ | exact absurd ho List.not_mem_nil

/-- calls on the continuous sink for frame `id`, with `cr` frames in the open file -/
def constObs (c : PCfg) (cr id : Nat) (f : Faults) : List Obs :=
  cycleObs .const id (c.constOn && decide (cr ≠ 0)) (c.constOn && decide (cr = 0)) f.cStart f.cWrite
    (decide (cr + 1 > c.maxF)) f.cStop

/-- the continuous recorder has a file open for this frame -/
def constOpen (c : PCfg) (cr : Nat) (f : Faults) : Bool :=
  c.constOn && decide (cr ≠ 0) || c.constOn && decide (cr = 0) && f.cStart

/-- `crFrames` after the frame: one more if a file is open for it, back to 0 when that fills the file -/
def constNext (c : PCfg) (cr : Nat) (f : Faults) : Nat :=
  if constOpen c cr f then (if cr + 1 > c.maxF then 0 else cr + 1) else cr

/-- a Bool equation: the continuous file is open after the frame iff it was open for the frame and is not full -/
theorem constNext_ne_zero (c : PCfg) (cr : Nat) (f : Faults) :
    (c.constOn && decide (constNext c cr f ≠ 0)) = (constOpen c cr f && !decide (cr + 1 > c.maxF)) := by
  by_cases hc : c.constOn = true <;> by_cases h0 : cr = 0 <;> by_cases hf : cr + 1 > c.maxF <;>
    cases hs : f.cStart <;> simp [constNext, constOpen, hc, h0, hf, hs]

/-- the closed form agrees with the branches of the definition: checked branch by branch (configuration on or
off, start allowed or not, first frame or not, file full or not) -/
theorem processConstantRecorder_eq (c : PCfg) (s : PState) (id : Nat) (f : Faults) :
    processConstantRecorder c s id f =
      ({ s with crFrames := constNext c s.crFrames f }, constObs c s.crFrames id f) := by
  obtain ⟨ring, n, isRec, fw, wu, tr, cr, startSnap, snapRec, snapFrames⟩ := s
  by_cases h1 : c.constOn = true <;> cases h3 : f.cStart <;> cases cr <;>
    simp [processConstantRecorder, constNext, constObs, constOpen, cycleObs, h1, h3] <;> split <;> rfl

/-- a test recording is open for this frame: it was already, or it starts now -/
def testOpen (s : PState) (f : Faults) : Bool := s.snapRec || s.startSnap && !s.snapRec && f.tStart

/-- this frame is the last of a test recording -/
def testFull (c : PCfg) (s : PState) : Bool := decide (s.snapFrames + 1 > c.testLast)

/-- calls on the test sink for frame `id` -/
def testObs (c : PCfg) (s : PState) (id : Nat) (f : Faults) : List Obs :=
  cycleObs .test id s.snapRec (s.startSnap && !s.snapRec) f.tStart f.tWrite (testFull c s) f.tStop

theorem processSnapshot_eq (c : PCfg) (s : PState) (id : Nat) (f : Faults) :
    processSnapshot c s id f =
      ({ s with startSnap := false, snapRec := testOpen s f && !testFull c s,
                snapFrames := if testOpen s f then (if testFull c s && f.tStop then 0 else s.snapFrames + 1)
                              else s.snapFrames },
       testObs c s id f) := by
  obtain ⟨ring, n, isRec, fw, wu, tr, cr, startSnap, snapRec, snapFrames⟩ := s
  by_cases h : snapFrames + 1 > c.testLast <;>
    cases startSnap <;> cases snapRec <;> cases h1 : f.tStart <;> cases h2 : f.tStop <;>
    simp [processSnapshot, testObs, cycleObs, testOpen, testFull, h, h1, h2]

/-- One accepted frame: the motion path on `pre s`, and the continuous and the test recorder, each on
its own fields of `s`. -/
theorem processFrame_parts (c : PCfg) (s : PState) (motion : Bool) (f : Faults) :
    processFrame c s motion f =
      ({ (process c (pre s) motion f).1 with
          n := s.n + 1, crFrames := constNext c s.crFrames f, startSnap := false,
          snapRec := testOpen s f && !testFull c s,
          snapFrames := if testOpen s f then (if testFull c s && f.tStop then 0 else s.snapFrames + 1)
                        else s.snapFrames },
       (process c (pre s) motion f).2 ++ constObs c s.crFrames s.n f ++ testObs c s s.n f) := by
  obtain ⟨r, b, fw, wu, t, h⟩ := process_touches c (pre s) motion f
  simp only [processFrame, andThen, processConstantRecorder_eq, processSnapshot_eq]
  rw [show process c { s with ring := s.ring.write s.n } motion f = process c (pre s) motion f from rfl, h]
  rfl

theorem stopConstantRecorder_eq (c : PCfg) (s : PState) (f : Faults) :
    stopConstantRecorder c s f =
      ({ s with crFrames := if c.constOn then 0 else s.crFrames },
       if c.constOn then [Obs.call .const .stop f.cStop] else []) := by
  unfold stopConstantRecorder
  cases c.constOn <;> rfl

theorem step_frame (c : PCfg) (s : PState) (motion : Bool) (f : Faults) :
    PState.step c s (.frame motion f) =
      ({ (process c (pre s) motion f).1 with
          n := s.n + 1, crFrames := constNext c s.crFrames f, startSnap := false,
          snapRec := testOpen s f && !testFull c s,
          snapFrames := if testOpen s f then (if testFull c s && f.tStop then 0 else s.snapFrames + 1)
                        else s.snapFrames },
       (process c (pre s) motion f).2 ++ constObs c s.crFrames s.n f ++ testObs c s s.n f) :=
  processFrame_parts ..

theorem step_reset (c : PCfg) (s : PState) (f : Faults) :
    PState.step c s (.reset f) =
      if s.isRec then
        ({ s with framesWritten := 0, writeUntil := 0, isRec := false, triggered := 0, ring := s.ring.setAsOldest },
         [Obs.re, Obs.call .motion .stop f.mStop])
      else (s, []) := by
  cases hr : s.isRec
  · exact stopRecording_idle hr _
  · exact stopRecording_rec hr _

/-- a rejected frame: the parser may have scribbled over the current slot; the motion recording and the
continuous file are closed -/
theorem step_bad (c : PCfg) (s : PState) (f : Faults) :
    PState.step c s (.bad f) =
      if s.isRec then
        ({ s with framesWritten := 0, writeUntil := 0, isRec := false, triggered := 0,
                  ring := (s.ring.write garbage).setAsOldest, crFrames := if c.constOn then 0 else s.crFrames },
         [Obs.re, Obs.call .motion .stop f.mStop] ++ if c.constOn then [Obs.call .const .stop f.cStop] else [])
      else
        ({ s with ring := s.ring.write garbage, crFrames := if c.constOn then 0 else s.crFrames },
         if c.constOn then [Obs.call .const .stop f.cStop] else []) := by
  simp only [PState.step, processBad, andThen, stopConstantRecorder_eq, stopRecording]
  cases s.isRec <;> rfl

theorem trace_append (c : PCfg) (s : PState) (a b : List Ev) :
    PState.trace c s (a ++ b) = PState.trace c s a ++ PState.trace c (PState.after c s a) b := by
  induction a generalizing s with
  | nil => rfl
  | cons e es ih => simp [PState.trace, PState.after, ih]

theorem after_append (c : PCfg) (s : PState) (a b : List Ev) :
    PState.after c s (a ++ b) = PState.after c (PState.after c s a) b := by
  induction a generalizing s with
  | nil => rfl
  | cons e es ih => simp only [List.cons_append, PState.after, ih]

theorem trace_snoc (c : PCfg) (s : PState) (evs : List Ev) (e : Ev) :
    PState.trace c s (evs ++ [e]) =
      PState.trace c s evs ++ [⟨e, (PState.step c (PState.after c s evs) e).2⟩] := by
  rw [trace_append]; rfl

theorem trace_evs (c : PCfg) : ∀ (evs : List Ev) (s : PState), (PState.trace c s evs).map (·.ev) = evs := by
  intro evs
  induction evs with
  | nil => intro s; rfl
  | cons e es ih => intro s; simp only [PState.trace, List.map_cons, ih]

theorem mem_trace (c : PCfg) : ∀ (evs : List Ev) (s : PState) (st : Step), st ∈ PState.trace c s evs →
    st.ev ∈ evs ∧ ∃ s', st.obs = (PState.step c s' st.ev).2 := by
  intro evs
  induction evs with
  | nil => intro s st h; cases h
  | cons e es ih =>
    intro s st h
    rcases List.mem_cons.1 h with rfl | h
    · exact ⟨List.mem_cons_self .., s, rfl⟩
    · exact ⟨List.mem_cons_of_mem _ (ih _ st h).1, (ih _ st h).2⟩

theorem step_n (c : PCfg) (s : PState) (e : Ev) :
    (PState.step c s e).1.n = s.n + (if e.isFrame then 1 else 0) := by
  cases e with
  | frame m f => rw [step_frame]; rfl
  | bad f => rw [step_bad]; split <;> rfl
  | reset f => rw [step_reset]; split <;> rfl
  | testReq => rfl

theorem after_n (c : PCfg) : ∀ (evs : List Ev) (s : PState),
    (PState.after c s evs).n = s.n + (evs.filter Ev.isFrame).length := by
  intro evs
  induction evs with
  | nil => intro s; rfl
  | cons e es ih =>
    intro s
    rw [PState.after, ih, step_n, List.filter_cons]
    split
    · rw [List.length_cons]; omega
    · omega

theorem pStop_ring (f : Faults) (s : PState) :
    (pStop f s).1.ring = s.ring.move ∨ (pStop f s).1.ring = s.ring.move.setAsOldest := by
  rw [pStop_eq]
  split
  · exact .inr rfl
  · exact .inl rfl

theorem process_ring (c : PCfg) (s : PState) (motion : Bool) (f : Faults) :
    (process c s motion f).1.ring = s.ring.move ∨ (process c s motion f).1.ring = s.ring.move.setAsOldest := by
  rcases process_cases c s motion f with ⟨_, e⟩ | ⟨_, _, q, _, e⟩ | ⟨_, _, _, e⟩ <;> rw [e]
  case inr.inl => exact .inl rfl
  all_goals exact pStop_ring f _

/-- the ring refines the accepted-frame sequence -/
def Good (c : PCfg) (s : PState) : Prop := ∃ mark, RBase c.K s.ring s.n mark

theorem good_init (c : PCfg) (hK : 0 < c.K) : Good c (PState.init c) := ⟨0, rbase_init c.K hK⟩

theorem good_of_ring {c : PCfg} {s s' : PState} (h : Good c s) (hn : s'.n = s.n)
    (hr : s'.ring = s.ring ∨ s'.ring = s.ring.setAsOldest) : Good c s' := by
  obtain ⟨mark, hb⟩ := h
  rcases hr with hr | hr
  · exact ⟨mark, by rw [hr, hn]; exact hb⟩
  · exact ⟨s.n, by rw [hr, hn]; exact rbase_mark hb⟩

theorem good_step (c : PCfg) (s : PState) (e : Ev) (h : Good c s) : Good c (PState.step c s e).1 := by
  cases e with
  | frame m f =>
    obtain ⟨mark, hb⟩ := h
    rw [step_frame]
    exact good_of_ring (s := { pre s with ring := (pre s).ring.move, n := s.n + 1 }) ⟨mark, rbase_accept hb⟩ rfl
      (process_ring c (pre s) m f)
  | bad f =>
    obtain ⟨mark, hb⟩ := h
    have hw : Good c { s with ring := s.ring.write garbage } := ⟨mark, rbase_write garbage hb⟩
    rw [step_bad]
    split
    · exact good_of_ring hw rfl (.inr rfl)
    · exact good_of_ring hw rfl (.inl rfl)
  | reset f =>
    rw [step_reset]
    split
    · exact good_of_ring h rfl (.inr rfl)
    · exact h
  | testReq => exact h

theorem good_history {c : PCfg} {s : PState} (h : Good c s) :
    ∃ lo, lo ≤ s.n ∧ (pre s).ring.history = some (List.range' lo (s.n + 1 - lo)) := by
  obtain ⟨mark, hb⟩ := h
  exact ⟨loOf c.K s.n mark, loOf_le _ _ _ (rbase_size hb) (rbase_mark_le hb), rbase_history hb⟩

theorem after_invariant {P : PState → Prop} (c : PCfg) (hstep : ∀ s e, P s → P (PState.step c s e).1) :
    ∀ (evs : List Ev) (s : PState), P s → P (PState.after c s evs) := by
  intro evs
  induction evs with
  | nil => intro s h; exact h
  | cons e es ih => intro s h; exact ih _ (hstep s e h)

/-- The same with a monitor folded along the trace: a relation `I` between model state and monitor state that
every event satisfying `E` keeps (`E` is the quantifier of the property, e.g. "no motion-sink write is made to
fail") holds after every list of such events. -/
theorem trace_fold_inv {μ : Type} (c : PCfg) (stepM : μ → Step → μ) (I : PState → μ → Prop) (E : Ev → Prop)
    (hstep : ∀ s m e, E e → I s m → I (PState.step c s e).1 (stepM m ⟨e, (PState.step c s e).2⟩)) :
    ∀ (evs : List Ev) (s : PState) (m : μ), (∀ e ∈ evs, E e) → I s m →
      I (PState.after c s evs) ((PState.trace c s evs).foldl stepM m) := by
  intro evs
  induction evs with
  | nil => intro s m _ h; exact h
  | cons e es ih =>
    intro s m he h
    exact ih _ _ (fun e' h' => he e' (List.mem_cons_of_mem _ h')) (hstep s m e (he e (List.mem_cons_self ..)) h)

end TR
