import TR.Pipeline
import Proofs.ProcStep
import Proofs.ThrStep
/-!
# Proofs.PipeLemmas — helper lemmas about the composed model `TR.Pipeline`

* the expressions `Pipe.item` evaluates on a frame, under names: `parseItem`, `verdict`, `detAfter`;
* what one observed call does, as equations: its file operation `callOp` (`applyObs_other`, `motionCall_off`), or,
  behind the throttle, the base calls of `TState.step` on the request (`mc_*`); nothing, if it failed on the motion sink;
* the closure principle for the observation fold: one call on sink `s` is made of file operations of the kind of `s`
  (`applyObs_call_rel`), so a reflexive, transitive relation on pipes that holds across `startFile`, `writeFile`,
  `stopFile` and updates of the throttle fields holds across `List.foldl (Pipe.applyObs c)` (`applyObs_fold_rel`);
* what `updOpen` does to the file list (`FileLe`, `PW`, `Ext`, `Started`), `Pipe.item` case by case, the files of one
  kind (`kf`, `filesOfKind`, `updOpen_filter`); at the end `Tiny`, a small executable configuration for the examples.
-/
namespace TR.PipeC17

def kindOf : Sink → FileKind
  | .motion => .motion
  | .const => .const
  | .test => .test

theorem kindOf_inj {s s' : Sink} (h : kindOf s' = kindOf s) : s' = s := by
  cases s <;> cases s' <;> first | rfl | cases h

end TR.PipeC17

namespace TR.PipeC04
variable {F : FloatOps}

/-- the parser's verdict on the bytes of a socket frame item (the expression inside `Pipe.item`) -/
def parseItem (c : PipeCfg) (bytes : List Nat) : Parse.Result :=
  if c.lepton then Parse.parseLepton (fun i => bytes.toArray.getD i 0) c.det.resX c.det.resY c.det.edge
  else Parse.parseBoson (fun i => bytes.toArray.getD i 0) c.det.resX c.det.resY c.det.edge

/-- the detector's verdict on an accepted frame in pipeline state `p` (the expression inside `Pipe.item`) -/
def verdict (c : PipeCfg) (p : Pipe F) (pix : Frame) (tel : Parse.Telemetry) : Bool :=
  (Det.detect c.det p.det pix
    (Det.affectedBy c.det ((tel.timeOnMs : Int) * 1000000) ((tel.lastFFCMs : Int) * 1000000))).2

end TR.PipeC04

namespace TR.PipeC15
variable {F : FloatOps}

/-- the detector state right after an accepted frame has been examined in pipeline state `p` (the expression
`Pipe.item` uses; its second component is `verdict c p pix tel`) -/
def detAfter (c : PipeCfg) (p : Pipe F) (pix : Frame) (tel : Parse.Telemetry) : Det F :=
  (Det.detect c.det p.det pix
    (Det.affectedBy c.det ((tel.timeOnMs : Int) * 1000000) ((tel.lastFFCMs : Int) * 1000000))).1

end TR.PipeC15

namespace TR.PipeLemmas
open TR TR.PipeC17 TR.PipeC04 TR.PipeC15

variable {F : FloatOps}

/-- the file operation a call stands for -/
def callOp (c : PipeCfg) (p : Pipe F) (k : FileKind) (t : Nat) : Call → Bool → Pipe F
  | .start, true => Pipe.startFile c p k t
  | .write id, _ => Pipe.writeFile p k id
  | .stop, _ => Pipe.stopFile p k
  | _, _ => p

theorem applyObs_other (c : PipeCfg) (p : Pipe F) (s : Sink) (hs : s ≠ .motion) (cl : Call) (ok : Bool) :
    Pipe.applyObs c p (.call s cl ok) = callOp c p (kindOf s) 0 cl ok := by
  cases s with
  | motion => exact absurd rfl hs
  | const | test => cases cl <;> cases ok <;> rfl

theorem motionCall_off (c : PipeCfg) (hthr : c.throttle = false) (p : Pipe F) (cl : Call) :
    Pipe.motionCall c p cl = callOp c p .motion p.det.tempThresh cl true := by
  simp only [Pipe.motionCall, hthr, Bool.false_eq_true, if_false]
  cases cl <;> rfl

/-- a failed call on the motion sink reaches neither the files nor the throttle -/
theorem applyObs_motion_fail (c : PipeCfg) (p : Pipe F) (cl : Call) :
    Pipe.applyObs c p (.call .motion cl false) = p := by
  cases cl <;> rfl

/-! behind the throttle a call becomes a request at tick 0 whose base calls all succeed; the base calls the
throttle makes are applied to the files -/

theorem mc_can (c : PipeCfg) (hthr : c.throttle = true) (p : Pipe F) : Pipe.motionCall c p .can = p := by
  simp only [Pipe.motionCall, hthr, if_true]

theorem mc_start (c : PipeCfg) (hthr : c.throttle = true) (p : Pipe F) :
    Pipe.motionCall c p .start = (p.thr.step (.start 0 0 true)).2.foldl (Pipe.applyTObs c)
      { p with threshOfStart := p.det.tempThresh, thr := (p.thr.step (.start 0 0 true)).1 } := by
  simp only [Pipe.motionCall, hthr, if_true]

theorem mc_write (c : PipeCfg) (hthr : c.throttle = true) (p : Pipe F) (id : Nat) :
    Pipe.motionCall c p (.write id) = (p.thr.step (.write 0 id true true true)).2.foldl (Pipe.applyTObs c)
      { p with thr := (p.thr.step (.write 0 id true true true)).1 } := by
  simp only [Pipe.motionCall, hthr, if_true]

theorem mc_stop (c : PipeCfg) (hthr : c.throttle = true) (p : Pipe F) :
    Pipe.motionCall c p .stop = (p.thr.step (.stop true)).2.foldl (Pipe.applyTObs c)
      { p with thr := (p.thr.step (.stop true)).1 } := by
  simp only [Pipe.motionCall, hthr, if_true]

section generic
variable (c : PipeCfg) (R : Pipe F → Pipe F → Prop)

theorem callOp_rel (hrefl : ∀ p, R p p) (k : FileKind) (t : Nat) (p : Pipe F)
    (hstart : R p (Pipe.startFile c p k t)) (hwrite : ∀ id, R p (Pipe.writeFile p k id))
    (hstop : R p (Pipe.stopFile p k)) (cl : Call) (ok : Bool) : R p (callOp c p k t cl ok) := by
  cases cl with
  | can => exact hrefl p
  | start => cases ok; exact hrefl p; exact hstart
  | write id => exact hwrite id
  | stop => exact hstop

theorem applyTObs_fold_rel
    (hrefl : ∀ p, R p p) (htrans : ∀ p q r, R p q → R q r → R p r)
    (hstartT : ∀ p, R p (Pipe.startFile c p .motion p.threshOfStart))
    (hwrite : ∀ p id, R p (Pipe.writeFile p .motion id))
    (hstop : ∀ p, R p (Pipe.stopFile p .motion)) :
    ∀ (tobs : List TObs) (p : Pipe F), R p (tobs.foldl (Pipe.applyTObs c) p) := by
  intro tobs
  induction tobs with
  | nil => intro p; exact hrefl p
  | cons t ts ih =>
    intro p
    simp only [List.foldl_cons]
    refine htrans _ _ _ ?_ (ih _)
    cases t with
    | bStart tag ok => exact hstartT _
    | bWrite id ok => exact hwrite _ _
    | bStop ok => exact hstop _
    | throttled | ret ok => exact hrefl _

/-- a call on the motion sink, throttled or not, touches motion files and the throttle fields only -/
theorem motionCall_rel
    (hrefl : ∀ p, R p p) (htrans : ∀ p q r, R p q → R q r → R p r)
    (hstartM : c.throttle = false → ∀ p, R p (Pipe.startFile c p .motion p.det.tempThresh))
    (hstartT : c.throttle = true → ∀ p, R p (Pipe.startFile c p .motion p.threshOfStart))
    (hwrite : ∀ p id, R p (Pipe.writeFile p .motion id))
    (hstop : ∀ p, R p (Pipe.stopFile p .motion))
    (hthr : ∀ (p : Pipe F) t, R p { p with thr := t })
    (htos : c.throttle = true → ∀ (p : Pipe F), R p { p with threshOfStart := p.det.tempThresh })
    (p : Pipe F) (cl : Call) : R p (Pipe.motionCall c p cl) := by
  cases hthrot : c.throttle with
  | false =>
    rw [motionCall_off c hthrot]
    exact callOp_rel c R hrefl _ _ p (hstartM hthrot p) (hwrite p) (hstop p) cl true
  | true =>
    have hT := applyTObs_fold_rel c R hrefl htrans (hstartT hthrot) hwrite hstop
    cases cl with
    | can => rw [mc_can c hthrot]; exact hrefl _
    | start =>
      rw [mc_start c hthrot]
      exact htrans _ _ _ (htos hthrot p) (htrans _ _ _ (hthr _ (p.thr.step (.start 0 0 true)).1) (hT _ _))
    | write id => rw [mc_write c hthrot]; exact htrans _ _ _ (hthr p _) (hT _ _)
    | stop => rw [mc_stop c hthrot]; exact htrans _ _ _ (hthr p _) (hT _ _)

/-- **one observed call on sink `s`** is made of file operations of the kind of `s`; only a call on the motion
sink touches the throttle fields; the threshold a file is started with depends on the sink and the throttle -/
theorem applyObs_call_rel
    (hrefl : ∀ p, R p p) (htrans : ∀ p q r, R p q → R q r → R p r) (s : Sink)
    (hstartM : s = .motion → c.throttle = false → ∀ p, R p (Pipe.startFile c p (kindOf s) p.det.tempThresh))
    (hstartT : s = .motion → c.throttle = true → ∀ p, R p (Pipe.startFile c p (kindOf s) p.threshOfStart))
    (hstart0 : s ≠ .motion → ∀ p, R p (Pipe.startFile c p (kindOf s) 0))
    (hwrite : ∀ p id, R p (Pipe.writeFile p (kindOf s) id))
    (hstop : ∀ p, R p (Pipe.stopFile p (kindOf s)))
    (hthr : s = .motion → ∀ (p : Pipe F) t, R p { p with thr := t })
    (htos : s = .motion → c.throttle = true → ∀ (p : Pipe F), R p { p with threshOfStart := p.det.tempThresh })
    (p : Pipe F) (cl : Call) (ok : Bool) : R p (Pipe.applyObs c p (.call s cl ok)) := by
  by_cases hs : s = .motion
  · subst hs
    cases ok with
    | false => rw [applyObs_motion_fail]; exact hrefl p
    | true =>
      exact motionCall_rel c R hrefl htrans (hstartM rfl) (hstartT rfl) hwrite hstop (hthr rfl) (htos rfl) p cl
  · rw [applyObs_other c p s hs]
    exact callOp_rel c R hrefl _ _ p (hstart0 hs p) (hwrite p) (hstop p) cl ok

/-- closure principle, fine-grained: the ways a file is started are separate hypotheses -/
theorem applyObs_fold_rel'
    (hrefl : ∀ p, R p p) (htrans : ∀ p q r, R p q → R q r → R p r)
    (hstartM : c.throttle = false → ∀ p, R p (Pipe.startFile c p .motion p.det.tempThresh))
    (hstartT : c.throttle = true → ∀ p, R p (Pipe.startFile c p .motion p.threshOfStart))
    (hstart0 : ∀ s, s ≠ .motion → ∀ p, R p (Pipe.startFile c p (kindOf s) 0))
    (hwrite : ∀ p k id, R p (Pipe.writeFile p k id))
    (hstop : ∀ p k, R p (Pipe.stopFile p k))
    (hthr : ∀ (p : Pipe F) t, R p { p with thr := t })
    (htos : c.throttle = true → ∀ (p : Pipe F), R p { p with threshOfStart := p.det.tempThresh }) :
    ∀ (obs : List Obs) (p : Pipe F), R p (obs.foldl (Pipe.applyObs c) p) := by
  intro obs
  induction obs with
  | nil => intro p; exact hrefl p
  | cons o os ih =>
    intro p
    simp only [List.foldl_cons]
    refine htrans _ _ _ ?_ (ih _)
    cases o with
    | call s cl ok =>
      exact applyObs_call_rel c R hrefl htrans s (fun hs => hs ▸ hstartM) (fun hs => hs ▸ hstartT) (hstart0 s)
        (fun p => hwrite p _) (fun p => hstop p _) (fun _ => hthr) (fun _ => htos) p cl ok
    | _ => exact hrefl _

/-- closure principle: a reflexive, transitive relation that holds across the three file operations
and across updates of the throttle fields holds across the whole observation fold -/
theorem applyObs_fold_rel
    (hrefl : ∀ p, R p p) (htrans : ∀ p q r, R p q → R q r → R p r)
    (hstart : ∀ p k t, R p (Pipe.startFile c p k t))
    (hwrite : ∀ p k id, R p (Pipe.writeFile p k id))
    (hstop : ∀ p k, R p (Pipe.stopFile p k))
    (hthr : ∀ (p : Pipe F) t, R p { p with thr := t })
    (htos : ∀ (p : Pipe F) n, R p { p with threshOfStart := n }) :
    ∀ (obs : List Obs) (p : Pipe F), R p (obs.foldl (Pipe.applyObs c) p) :=
  applyObs_fold_rel' c R hrefl htrans (fun _ p => hstart p _ _) (fun _ p => hstart p _ _)
    (fun _ _ p => hstart p _ _) hwrite hstop hthr (fun _ p => htos p _)

end generic

/-- applying processor observations touches only `files`, `thr` and `threshOfStart` -/
theorem applyObs_fold_others (c : PipeCfg) (obs : List Obs) (p : Pipe F) :
    (obs.foldl (Pipe.applyObs c) p).det = p.det ∧
    (obs.foldl (Pipe.applyObs c) p).proc = p.proc ∧
    (obs.foldl (Pipe.applyObs c) p).accepted = p.accepted ∧
    (obs.foldl (Pipe.applyObs c) p).badFrames = p.badFrames ∧
    (obs.foldl (Pipe.applyObs c) p).resets = p.resets :=
  applyObs_fold_rel c
    (fun p q => q.det = p.det ∧ q.proc = p.proc ∧ q.accepted = p.accepted ∧
      q.badFrames = p.badFrames ∧ q.resets = p.resets)
    (fun _ => ⟨rfl, rfl, rfl, rfl, rfl⟩)
    (fun _ _ _ h₁ h₂ => ⟨h₂.1.trans h₁.1, h₂.2.1.trans h₁.2.1, h₂.2.2.1.trans h₁.2.2.1,
      h₂.2.2.2.1.trans h₁.2.2.2.1, h₂.2.2.2.2.trans h₁.2.2.2.2⟩)
    (fun _ _ _ => ⟨rfl, rfl, rfl, rfl, rfl⟩) (fun _ _ _ => ⟨rfl, rfl, rfl, rfl, rfl⟩)
    (fun _ _ => ⟨rfl, rfl, rfl, rfl, rfl⟩) (fun _ _ => ⟨rfl, rfl, rfl, rfl, rfl⟩)
    (fun _ _ => ⟨rfl, rfl, rfl, rfl, rfl⟩) obs p

/-- an observation that is neither a `StartRecording` nor a `WriteFrame` call -/
def quiet : Obs → Bool
  | .call _ .start _ => false
  | .call _ (.write _) _ => false
  | _ => true

section quietSec
variable (c : PipeCfg) (R : Pipe F → Pipe F → Prop)

theorem applyObs_quiet_rel
    (hrefl : ∀ p, R p p) (htrans : ∀ p q r, R p q → R q r → R p r)
    (hstop : ∀ p k, R p (Pipe.stopFile p k))
    (hthr : ∀ (p : Pipe F) t, R p { p with thr := t })
    (p : Pipe F) (o : Obs) (hq : quiet o = true) : R p (Pipe.applyObs c p o) := by
  cases o with
  | call s cl ok =>
    by_cases hs : s = .motion
    · subst hs
      cases ok with
      | false => rw [applyObs_motion_fail]; exact hrefl p
      | true =>
        cases cl with
        | start | write id => cases hq
        | can =>
          show R p (Pipe.motionCall c p .can)
          cases hthrot : c.throttle
          · rw [motionCall_off c hthrot]; exact hrefl p
          · rw [mc_can c hthrot]; exact hrefl p
        | stop =>
          show R p (Pipe.motionCall c p .stop)
          cases hthrot : c.throttle
          · rw [motionCall_off c hthrot]; exact hstop _ _
          · rw [mc_stop c hthrot, TState.step_stop]
            split
            · exact htrans _ _ _ (hthr p _) (hstop _ _)
            · exact hthr p _
    · rw [applyObs_other c p s hs]
      cases cl with
      | start | write id => cases hq
      | can => exact hrefl p
      | stop => exact hstop _ _
  | _ => exact hrefl _

/-- closure principle for observation lists without `start` / `write` calls: only `stopFile`
and updates of the throttle state have to be covered -/
theorem applyObs_fold_rel_quiet
    (hrefl : ∀ p, R p p) (htrans : ∀ p q r, R p q → R q r → R p r)
    (hstop : ∀ p k, R p (Pipe.stopFile p k))
    (hthr : ∀ (p : Pipe F) t, R p { p with thr := t }) :
    ∀ (obs : List Obs), obs.all quiet = true → ∀ (p : Pipe F), R p (obs.foldl (Pipe.applyObs c) p) := by
  intro obs
  induction obs with
  | nil => intro _ p; exact hrefl p
  | cons o os ih =>
    intro hq p
    simp only [List.all_cons, Bool.and_eq_true] at hq
    simp only [List.foldl_cons]
    exact htrans _ _ _ (applyObs_quiet_rel c R hrefl htrans hstop hthr p o hq.1) (ih hq.2 _)

end quietSec

theorem stopRecording_spec (s : PState) (ok : Bool) :
    (s.stopRecording ok).1.isRec = false ∧ (s.stopRecording ok).1.n = s.n ∧
    (s.stopRecording ok).2.all quiet = true := by
  cases h : s.isRec
  · rw [stopRecording_idle h]; exact ⟨h, rfl, rfl⟩
  · rw [stopRecording_rec h]; exact ⟨rfl, rfl, rfl⟩

theorem processBad_spec (pc : PCfg) (s : PState) (f : Faults) :
    (PState.processBad pc s f).1.isRec = false ∧ (PState.processBad pc s f).1.n = s.n ∧
    (PState.processBad pc s f).2.all quiet = true := by
  show (PState.step pc s (.bad f)).1.isRec = false ∧ (PState.step pc s (.bad f)).1.n = s.n ∧
    (PState.step pc s (.bad f)).2.all quiet = true
  rw [step_bad]
  cases h : s.isRec <;> cases pc.constOn <;> first | exact ⟨h, rfl, rfl⟩ | exact ⟨rfl, rfl, rfl⟩

theorem updOpen_length (fs : List RecFile) (k : FileKind) (u : RecFile → RecFile) :
    (Pipe.updOpen fs k u).length = fs.length := by
  induction fs with
  | nil => rfl
  | cons x xs ih => simp only [Pipe.updOpen]; split <;> simp [ih]

theorem updOpen_close_frames (fs : List RecFile) (k : FileKind) :
    (Pipe.updOpen fs k fun f => { f with closed := true }).map (·.frames) = fs.map (·.frames) := by
  induction fs with
  | nil => rfl
  | cons x xs ih => simp only [Pipe.updOpen]; split <;> simp [ih]

/-- `b` is a later state of the file `a`: same header, frames only appended, a closed file is final -/
def FileLe (a b : RecFile) : Prop :=
  a.kind = b.kind ∧ a.thresh = b.thresh ∧ a.bg = b.bg ∧ a.bgSeeded = b.bgSeeded ∧
  a.frames <+: b.frames ∧ (a.closed = true → b = a)

theorem FileLe.refl (a : RecFile) : FileLe a a :=
  ⟨rfl, rfl, rfl, rfl, List.prefix_refl _, fun _ => rfl⟩

theorem FileLe.trans {a b d : RecFile} (h₁ : FileLe a b) (h₂ : FileLe b d) : FileLe a d := by
  obtain ⟨k1, t1, b1, s1, f1, c1⟩ := h₁
  obtain ⟨k2, t2, b2, s2, f2, c2⟩ := h₂
  refine ⟨k1.trans k2, t1.trans t2, b1.trans b2, s1.trans s2, List.IsPrefix.trans f1 f2, ?_⟩
  intro hc
  have hb := c1 hc
  have hd := c2 (by rw [hb]; exact hc)
  rw [hd, hb]

theorem FileLe.closed_mono {a b : RecFile} (h : FileLe a b) (hc : a.closed = true) : b.closed = true := by
  rw [h.2.2.2.2.2 hc]; exact hc

/-- position-wise `FileLe` of two lists of the same length -/
def PW : List RecFile → List RecFile → Prop
  | [], [] => True
  | a :: as, b :: bs => FileLe a b ∧ PW as bs
  | _, _ => False

theorem PW.refl : ∀ (l : List RecFile), PW l l
  | [] => trivial
  | a :: as => ⟨FileLe.refl a, PW.refl as⟩

theorem PW.trans : ∀ {l₁ l₂ l₃ : List RecFile}, PW l₁ l₂ → PW l₂ l₃ → PW l₁ l₃
  | [], [], [], _, _ => trivial
  | _ :: _, _ :: _, _ :: _, h₁, h₂ => ⟨FileLe.trans h₁.1 h₂.1, PW.trans h₁.2 h₂.2⟩
  | [], _ :: _, _, h₁, _ => h₁.elim
  | _ :: _, [], _, h₁, _ => h₁.elim
  | _, [], _ :: _, _, h₂ => h₂.elim
  | _, _ :: _, [], _, h₂ => h₂.elim

theorem PW.length_eq : ∀ {l₁ l₂ : List RecFile}, PW l₁ l₂ → l₁.length = l₂.length
  | [], [], _ => rfl
  | _ :: _, _ :: _, h => by simp only [List.length_cons, PW.length_eq h.2]
  | [], _ :: _, h => h.elim
  | _ :: _, [], h => h.elim

theorem PW.getElem : ∀ {l₁ l₂ : List RecFile}, PW l₁ l₂ →
    ∀ (i : Nat) (h₁ : i < l₁.length) (h₂ : i < l₂.length), FileLe l₁[i] l₂[i]
  | [], _, _, i, h₁, _ => absurd h₁ (Nat.not_lt_zero i)
  | _ :: _, [], h, _, _, _ => h.elim
  | _ :: _, _ :: _, h, 0, _, _ => h.1
  | _ :: _, _ :: _, h, i + 1, h₁, h₂ => by
    simp only [List.getElem_cons_succ]
    exact PW.getElem h.2 i (Nat.lt_of_succ_lt_succ h₁) (Nat.lt_of_succ_lt_succ h₂)

theorem PW.split_left : ∀ (a u : List RecFile) {l : List RecFile}, PW (a ++ u) l →
    ∃ la lu, l = la ++ lu ∧ PW a la ∧ PW u lu
  | [], u, l, h => ⟨[], l, rfl, trivial, h⟩
  | x :: a, u, [], h => h.elim
  | x :: a, u, y :: l, h => by
    obtain ⟨la, lu, hl, ha, hu⟩ := PW.split_left a u h.2
    exact ⟨y :: la, lu, by rw [hl]; rfl, ⟨h.1, ha⟩, hu⟩

theorem PW.mem_right : ∀ {l₁ l₂ : List RecFile}, PW l₁ l₂ → ∀ g ∈ l₂, ∃ f ∈ l₁, FileLe f g
  | [], [], _, g, hg => by cases hg
  | [], _ :: _, h, _, _ => h.elim
  | _ :: _, [], h, _, _ => h.elim
  | a :: as, b :: bs, h, g, hg => by
    rcases List.mem_cons.mp hg with rfl | hg
    · exact ⟨a, List.mem_cons_self .., h.1⟩
    · obtain ⟨f, hf, hfg⟩ := PW.mem_right h.2 g hg
      exact ⟨f, List.mem_cons_of_mem _ hf, hfg⟩

/-- the shared core of `Ext.trans`, `Started.trans` and `PipeC15.TStarted.trans`: the files added by the first
extension are among those the second one updates, and a property `P` of added files that `FileLe` keeps survives -/
theorem PW.ext_trans {P : RecFile → Prop} (hP : ∀ {f g}, P f → FileLe f g → P g) {l a1 u1 a2 u2 : List RecFile}
    (p1 : PW l u1) (h1 : ∀ f ∈ a1, P f) (p2 : PW (a1 ++ u1) u2) (h2 : ∀ f ∈ a2, P f) :
    ∃ added upd, a2 ++ u2 = added ++ upd ∧ PW l upd ∧ ∀ f ∈ added, P f := by
  obtain ⟨la, lu, hl, hla, hlu⟩ := PW.split_left a1 u1 p2
  refine ⟨a2 ++ la, lu, by rw [hl, List.append_assoc], PW.trans p1 hlu, fun f hf => ?_⟩
  rcases List.mem_append.mp hf with hf | hf
  · exact h2 f hf
  · obtain ⟨g, hg, hgf⟩ := PW.mem_right hla f hf
    exact hP (h1 g hg) hgf

theorem PW.updOpen (k : FileKind) (u : RecFile → RecFile) (hu : ∀ x, x.closed = false → FileLe x (u x)) :
    ∀ (fs : List RecFile), PW fs (Pipe.updOpen fs k u)
  | [] => trivial
  | x :: xs => by
    simp only [Pipe.updOpen]
    split
    · next h =>
      refine ⟨hu x ?_, PW.refl xs⟩
      simp only [Bool.and_eq_true, Bool.not_eq_true'] at h
      exact h.2
    · exact ⟨FileLe.refl x, PW.updOpen k u hu xs⟩

/-- `new` extends `old`: some files were started (consed at the head), and the old files are still
there, in the same order, each possibly with more frames / closed -/
def Ext (old new : List RecFile) : Prop := ∃ added upd, new = added ++ upd ∧ PW old upd

theorem Ext.refl (l : List RecFile) : Ext l l := ⟨[], l, rfl, PW.refl l⟩

theorem Ext.trans {l₁ l₂ l₃ : List RecFile} (h₁ : Ext l₁ l₂) (h₂ : Ext l₂ l₃) : Ext l₁ l₃ := by
  obtain ⟨a1, u1, rfl, p1⟩ := h₁
  obtain ⟨a2, u2, rfl, p2⟩ := h₂
  obtain ⟨added, upd, e, p, _⟩ := PW.ext_trans (P := fun _ => True) (fun _ _ => trivial) p1 (fun _ _ => trivial) p2
    (fun _ _ => trivial)
  exact ⟨added, upd, e, p⟩

theorem Ext.of_PW {l₁ l₂ : List RecFile} (h : PW l₁ l₂) : Ext l₁ l₂ := ⟨[], l₂, rfl, h⟩

theorem Ext.length_le {l₁ l₂ : List RecFile} (h : Ext l₁ l₂) : l₁.length ≤ l₂.length := by
  obtain ⟨a, u, e, p⟩ := h
  rw [e, List.length_append, PW.length_eq p]
  exact Nat.le_add_left _ _

/-- the old files, counted from the oldest (= from the end of the newest-first list) -/
theorem Ext.reverse_getElem {l₁ l₂ : List RecFile} (h : Ext l₁ l₂) (i : Nat) (h₁ : i < l₁.length) :
    ∃ h₂ : i < l₂.reverse.length, FileLe (l₁.reverse[i]'(by simpa using h₁)) (l₂.reverse[i]) := by
  obtain ⟨a, u, rfl, p⟩ := h
  have hlen := PW.length_eq p
  -- oldest first the old files come first: `(a ++ u).reverse = u.reverse ++ a.reverse`
  have hu : i < u.reverse.length := by rw [List.length_reverse, ← hlen]; exact h₁
  refine ⟨by rw [List.reverse_append, List.length_append]; exact Nat.lt_add_right _ hu, ?_⟩
  simp only [List.reverse_append, List.getElem_append_left hu, List.getElem_reverse, ← hlen]
  exact PW.getElem p _ _ _

theorem writeFile_pw (p : Pipe F) (k : FileKind) (id : Nat) : PW p.files (Pipe.writeFile p k id).files := by
  refine PW.updOpen k (fun f => { f with frames := f.frames ++ [id] }) ?_ p.files
  intro x hx
  refine ⟨rfl, rfl, rfl, rfl, List.prefix_append _ _, ?_⟩
  intro hc; rw [hx] at hc; cases hc

theorem stopFile_pw (p : Pipe F) (k : FileKind) : PW p.files (Pipe.stopFile p k).files := by
  refine PW.updOpen k (fun f => { f with closed := true }) ?_ p.files
  intro x hx
  refine ⟨rfl, rfl, rfl, rfl, List.prefix_refl _, ?_⟩
  intro hc; rw [hx] at hc; cases hc

/-- is some motion file still open?  (C14 at the files: after a `clear` during a recording none is,
`c14_clear_closes_motion_file` in `Props.Pipeline`) -/
def openMotion (files : List RecFile) : Bool := files.any (fun f => f.kind == .motion && !f.closed)

/-- number of motion files still open: `Pipe.updOpen` closes one file, the most recently started open one, so what a
stop does to the files is a statement about this count (`motionOpenCount_close`), and `openMotion` follows from it
when at most one file was open -/
def motionOpenCount (files : List RecFile) : Nat := files.countP (fun f => f.kind == .motion && !f.closed)

theorem openMotion_false_of_count_zero (fs : List RecFile) (h : motionOpenCount fs = 0) : openMotion fs = false := by
  simp only [motionOpenCount, List.countP_eq_zero] at h
  simp only [openMotion, List.any_eq_false]
  intro x hx
  simpa using h x hx

theorem motionOpenCount_close (fs : List RecFile) :
    motionOpenCount (Pipe.updOpen fs .motion fun f => { f with closed := true }) = motionOpenCount fs - 1 := by
  induction fs with
  | nil => rfl
  | cons x xs ih =>
    simp only [Pipe.updOpen]
    split
    · next h =>
      simp only [motionOpenCount, List.countP_cons, h, if_true]
      have : ((({ x with closed := true } : RecFile).kind == FileKind.motion) &&
          !({ x with closed := true } : RecFile).closed) = false := by simp
      simp only [this]
      simp
    · next h =>
      simp only [motionOpenCount, List.countP_cons, h] at ih ⊢
      simpa using ih

theorem applyObs_fold_quiet_frames (c : PipeCfg) (obs : List Obs) (hq : obs.all quiet = true) (p : Pipe F) :
    (obs.foldl (Pipe.applyObs c) p).files.map (·.frames) = p.files.map (·.frames) :=
  applyObs_fold_rel_quiet c (fun p q => q.files.map (·.frames) = p.files.map (·.frames))
    (fun _ => rfl) (fun _ _ _ h₁ h₂ => h₂.trans h₁)
    (fun p k => updOpen_close_frames p.files k) (fun _ _ => rfl) obs hq p

theorem applyObs_fold_quiet_length (c : PipeCfg) (obs : List Obs) (hq : obs.all quiet = true) (p : Pipe F) :
    (obs.foldl (Pipe.applyObs c) p).files.length = p.files.length := by
  have h := congrArg List.length (applyObs_fold_quiet_frames c obs hq p)
  simpa only [List.length_map] using h

theorem map_frames_length (l : List RecFile) :
    l.map (fun f => f.frames.length) = (l.map (·.frames)).map List.length := by
  rw [List.map_map]; rfl

/-- the header of a file started while the detector state is `d` and the throttle's stored threshold
is `tos`: background and seeded flag are the detector's; the threshold is 0 for test / continuous
files, the detector's for a motion file — or, only with the throttle, the threshold the throttle
stored at the upstream start -/
def Hdr (c : PipeCfg) (d : Det F) (tos : Nat) (f : RecFile) : Prop :=
  f.bg = d.background c.det ∧ f.bgSeeded = d.bgSeeded ∧
  (f.kind ≠ .motion → f.thresh = 0) ∧
  (f.kind = .motion → (f.thresh = d.tempThresh ∨ (c.throttle = true ∧ f.thresh = tos)))

theorem Hdr.of_le {c : PipeCfg} {d : Det F} {tos : Nat} {f g : RecFile} (h : Hdr c d tos f) (hfg : FileLe f g) :
    Hdr c d tos g := by
  obtain ⟨k, t, b, s, _, _⟩ := hfg
  obtain ⟨h1, h2, h4, h5⟩ := h
  refine ⟨b ▸ h1, s ▸ h2, ?_, ?_⟩
  · intro hk; rw [← t]; exact h4 (k ▸ hk)
  · intro hk; rw [← t]; exact h5 (k ▸ hk)

/-- without the throttle the threshold of a motion file is the detector's -/
theorem Hdr.thresh_off {c : PipeCfg} {d : Det F} {tos : Nat} {f : RecFile} (h : Hdr c d tos f)
    (hthr : c.throttle = false) (hk : f.kind = .motion) : f.thresh = d.tempThresh :=
  (h.2.2.2 hk).resolve_right fun ⟨ht, _⟩ => by rw [hthr] at ht; cases ht

/-- across an observation list: the detector is untouched, the throttle's stored threshold is the old
one or the detector's, and every file started carries a header taken from that detector -/
def Started (c : PipeCfg) (p q : Pipe F) : Prop :=
  q.det = p.det ∧ (q.threshOfStart = p.threshOfStart ∨ (c.throttle = true ∧ q.threshOfStart = p.det.tempThresh)) ∧
  ∃ added upd, q.files = added ++ upd ∧ PW p.files upd ∧ ∀ f ∈ added, Hdr c p.det p.threshOfStart f

theorem Started.refl (c : PipeCfg) (p : Pipe F) : Started c p p :=
  ⟨rfl, Or.inl rfl, [], p.files, rfl, PW.refl _, fun _ h => by cases h⟩

theorem Started.trans {c : PipeCfg} {p q r : Pipe F} (h₁ : Started c p q) (h₂ : Started c q r) : Started c p r := by
  obtain ⟨d1, t1, a1, u1, e1, p1, hd1⟩ := h₁
  obtain ⟨d2, t2, a2, u2, e2, p2, hd2⟩ := h₂
  rw [e1] at p2
  refine ⟨d2.trans d1, ?_, e2 ▸ PW.ext_trans Hdr.of_le p1 hd1 p2 fun f hf => ?_⟩
  · rcases t2 with t2 | ⟨ht, t2⟩
    · rw [t2]; exact t1
    · exact Or.inr ⟨ht, by rw [t2, d1]⟩
  · obtain ⟨h1, h2, h4, h5⟩ := hd2 f hf
    rw [d1] at h1 h2 h5
    refine ⟨h1, h2, h4, fun hk => ?_⟩
    rcases h5 hk with h | ⟨ht, h⟩
    · exact Or.inl h
    · rcases t1 with t1 | ⟨_, t1⟩
      · exact Or.inr ⟨ht, by rw [h, t1]⟩
      · exact Or.inl (by rw [h, t1])

theorem Started.of_same {c : PipeCfg} {p q : Pipe F} (hd : q.det = p.det) (ht : q.threshOfStart = p.threshOfStart)
    (hf : PW p.files q.files) : Started c p q :=
  ⟨hd, Or.inl ht, [], q.files, rfl, hf, fun _ h => by cases h⟩

theorem applyObs_fold_started (c : PipeCfg) (obs : List Obs) (p : Pipe F) :
    Started c p (obs.foldl (Pipe.applyObs c) p) := by
  have one : ∀ (p : Pipe F) (x : RecFile), Hdr c p.det p.threshOfStart x →
      Started c p { p with files := x :: p.files } := fun p x hx =>
    ⟨rfl, Or.inl rfl, [x], p.files, rfl, PW.refl _, fun f hf => by rw [List.mem_singleton.mp hf]; exact hx⟩
  refine applyObs_fold_rel' c (Started c) (Started.refl c) (fun _ _ _ => Started.trans)
    ?_ ?_ ?_ ?_ ?_ ?_ ?_ obs p
  · exact fun _ p => one p _ ⟨rfl, rfl, fun h => absurd rfl h, fun _ => Or.inl rfl⟩
  · exact fun ht p => one p _ ⟨rfl, rfl, fun h => absurd rfl h, fun _ => Or.inr ⟨ht, rfl⟩⟩
  · intro s hs p
    exact one p _ ⟨rfl, rfl, fun _ => rfl, fun h => absurd (kindOf_inj (s := .motion) h) hs⟩
  · exact fun p k id => Started.of_same rfl rfl (writeFile_pw p k id)
  · exact fun p k => Started.of_same rfl rfl (stopFile_pw p k)
  · exact fun p t => Started.of_same rfl rfl (PW.refl _)
  · exact fun ht p => ⟨rfl, Or.inr ⟨ht, rfl⟩, [], p.files, rfl, PW.refl _, fun _ h => by cases h⟩

theorem applyObs_fold_ext (c : PipeCfg) (obs : List Obs) (p : Pipe F) :
    Ext p.files (obs.foldl (Pipe.applyObs c) p).files :=
  let ⟨_, _, added, upd, e, pw, _⟩ := applyObs_fold_started c obs p
  ⟨added, upd, e, pw⟩

theorem item_clear (c : PipeCfg) (p : Pipe F) :
    Pipe.item c p .clear =
      let r := PState.stopRecording p.proc true
      let p' := r.2.foldl (Pipe.applyObs c) { p with proc := r.1 }
      { p' with det := p'.det.reset, resets := p'.resets + 1 } := rfl

theorem item_bad (c : PipeCfg) (p : Pipe F) (bytes : List Nat) (y x : Nat) (hbad : parseItem c bytes = .bad y x) :
    Pipe.item c p (.frame bytes) =
      let r := PState.processBad c.proc p.proc (Pipe.faults c)
      let p' := r.2.foldl (Pipe.applyObs c) { p with proc := r.1 }
      { p' with badFrames := p'.badFrames + 1 } := by
  unfold parseItem at hbad
  simp only [Pipe.item]
  rw [hbad]
  rfl

theorem item_ok (c : PipeCfg) (p : Pipe F) (bytes : List Nat) (pix : Frame) (tel : Parse.Telemetry)
    (hok : parseItem c bytes = .ok pix tel) :
    Pipe.item c p (.frame bytes) =
      let r := PState.processFrame c.proc p.proc (verdict c p pix tel) (Pipe.faults c)
      r.2.foldl (Pipe.applyObs c)
        { p with det := detAfter c p pix tel, accepted := { pix := pix, tel := tel } :: p.accepted, proc := r.1 } := by
  unfold parseItem at hok
  simp only [Pipe.item]
  rw [hok]
  rfl

theorem item_ext (c : PipeCfg) (p : Pipe F) (it : Socket.Item) : Ext p.files (Pipe.item c p it).files := by
  cases it with
  | clear =>
    rw [item_clear]
    exact applyObs_fold_ext c _ { p with proc := _ }
  | frame bytes =>
    cases hres : parseItem c bytes with
    | bad y x =>
      rw [item_bad c p bytes y x hres]
      exact applyObs_fold_ext c _ { p with proc := _ }
    | ok pix tel =>
      rw [item_ok c p bytes pix tel hres]
      -- `det` left open would be filled with `p.det` when the two `.files` are compared, and the fold then unfolded
      exact applyObs_fold_ext c _ { p with det := detAfter c p pix tel, accepted := _, proc := _ }

end TR.PipeLemmas

namespace TR.PipeC17
open TR TR.PipeLemmas

/-- the files of kind `k`, newest first -/
def kf (k : FileKind) (fs : List RecFile) : List RecFile := fs.filter (·.kind == k)

/-- frame-id lists of the files of kind `k`, oldest first -/
def filesOfKind {F : FloatOps} (k : FileKind) (p : Pipe F) : List (List Nat) :=
  (p.files.reverse.filter (·.kind == k)).map (·.frames)

theorem filesOfKind_eq {F : FloatOps} (k : FileKind) (p : Pipe F) :
    filesOfKind k p = ((kf k p.files).map (·.frames)).reverse := by
  simp only [filesOfKind, kf, List.filter_reverse, List.map_reverse]

theorem kf_kind {k : FileKind} {fs : List RecFile} {f : RecFile} (h : f ∈ kf k fs) : f.kind = k := by
  have := (List.mem_filter.mp h).2
  simpa using this

theorem kf_cons_same (k : FileKind) (x : RecFile) (fs : List RecFile) (h : x.kind = k) :
    kf k (x :: fs) = x :: kf k fs := by
  simp [kf, h]

theorem kf_cons_other (k : FileKind) (x : RecFile) (fs : List RecFile) (h : x.kind ≠ k) :
    kf k (x :: fs) = kf k fs := by
  simp [kf, h]

theorem updOpen_all_closed (ms : List RecFile) (k : FileKind) (u : RecFile → RecFile)
    (h : ∀ f ∈ ms, f.closed = true) : Pipe.updOpen ms k u = ms := by
  induction ms with
  | nil => rfl
  | cons x xs ih =>
    have hx := h x (List.mem_cons_self ..)
    simp only [Pipe.updOpen, hx, Bool.not_true, Bool.and_false, Bool.false_eq_true, if_false]
    rw [ih (fun f hf => h f (List.mem_cons_of_mem _ hf))]

/-- `updOpen` under a filter on the kind: where the filter keeps kind `k` the two commute, where it drops kind `k`
the update is invisible -/
theorem updOpen_filter (q : FileKind → Bool) (k : FileKind) (u : RecFile → RecFile) (hu : ∀ x, (u x).kind = x.kind)
    (fs : List RecFile) :
    (Pipe.updOpen fs k u).filter (fun f => q f.kind) =
      if q k then Pipe.updOpen (fs.filter (fun f => q f.kind)) k u else fs.filter (fun f => q f.kind) := by
  induction fs with
  | nil => exact (ite_self _).symm
  | cons x xs ih =>
    simp only [Pipe.updOpen]
    split
    · next h =>
      have hk : x.kind = k := by simp only [Bool.and_eq_true, beq_iff_eq] at h; exact h.1
      simp only [List.filter_cons, hu, hk]
      cases q k
      · rfl
      · simp only [if_true, Pipe.updOpen, h]
    · next h =>
      simp only [List.filter_cons, ih]
      cases q k <;> cases q x.kind <;> simp only [Pipe.updOpen, h, if_true, if_false, Bool.false_eq_true]

theorem updOpen_kf_other (k k' : FileKind) (fs : List RecFile) (u : RecFile → RecFile) (hk : k' ≠ k)
    (hu : ∀ x, (u x).kind = x.kind) : kf k (Pipe.updOpen fs k' u) = kf k fs :=
  (updOpen_filter (· == k) k' u hu fs).trans (if_neg (by simpa using hk))

theorem updOpen_kf_same (k : FileKind) (fs : List RecFile) (u : RecFile → RecFile)
    (hu : ∀ x, (u x).kind = x.kind) : kf k (Pipe.updOpen fs k u) = Pipe.updOpen (kf k fs) k u :=
  (updOpen_filter (· == k) k u hu fs).trans (if_pos (beq_self_eq_true k))

theorem updOpen_head_open_k (k : FileKind) (x : RecFile) (rest : List RecFile) (u : RecFile → RecFile)
    (hk : x.kind = k) (hc : x.closed = false) : Pipe.updOpen (x :: rest) k u = u x :: rest := by
  simp [Pipe.updOpen, hk, hc]

variable {F : FloatOps}

theorem kf_start_same (c : PipeCfg) (p : Pipe F) (k : FileKind) (t : Nat) :
    ∃ x : RecFile, x.kind = k ∧ x.closed = false ∧ x.frames = [] ∧
      kf k (Pipe.startFile c p k t).files = x :: kf k p.files :=
  ⟨_, rfl, rfl, rfl, kf_cons_same k _ p.files rfl⟩

theorem kf_start_other (c : PipeCfg) (p : Pipe F) (k k' : FileKind) (t : Nat) (hk : k' ≠ k) :
    kf k (Pipe.startFile c p k' t).files = kf k p.files :=
  kf_cons_other k _ p.files hk

theorem kf_write_other (p : Pipe F) (k k' : FileKind) (id : Nat) (hk : k' ≠ k) :
    kf k (Pipe.writeFile p k' id).files = kf k p.files :=
  updOpen_kf_other k k' p.files (fun f => { f with frames := f.frames ++ [id] }) hk (fun _ => rfl)

theorem kf_stop_other (p : Pipe F) (k k' : FileKind) (hk : k' ≠ k) :
    kf k (Pipe.stopFile p k').files = kf k p.files :=
  updOpen_kf_other k k' p.files (fun f => { f with closed := true }) hk (fun _ => rfl)

theorem kf_write_same (p : Pipe F) (k : FileKind) (id : Nat) :
    kf k (Pipe.writeFile p k id).files =
      Pipe.updOpen (kf k p.files) k (fun f => { f with frames := f.frames ++ [id] }) :=
  updOpen_kf_same k p.files _ (fun _ => rfl)

theorem kf_stop_same (p : Pipe F) (k : FileKind) :
    kf k (Pipe.stopFile p k).files = Pipe.updOpen (kf k p.files) k (fun f => { f with closed := true }) :=
  updOpen_kf_same k p.files _ (fun _ => rfl)

theorem applyObs_other_kf (c : PipeCfg) (p : Pipe F) (s s' : Sink) (hne : s' ≠ s) (cl : Call) (ok : Bool) :
    kf (kindOf s) (Pipe.applyObs c p (.call s' cl ok)).files = kf (kindOf s) p.files := by
  have hk : kindOf s' ≠ kindOf s := fun h => hne (kindOf_inj h)
  exact applyObs_call_rel c (fun p q => kf (kindOf s) q.files = kf (kindOf s) p.files) (fun _ => rfl)
    (fun _ _ _ h₁ h₂ => h₂.trans h₁) s' (fun _ _ p => kf_start_other c p _ _ _ hk)
    (fun _ _ p => kf_start_other c p _ _ _ hk) (fun _ p => kf_start_other c p _ _ _ hk)
    (fun p id => kf_write_other p _ _ id hk) (fun p => kf_stop_other p _ _ hk) (fun _ _ _ => rfl)
    (fun _ _ _ => rfl) p cl ok

end TR.PipeC17

namespace TR.PipeLemmas.Tiny

/-- integer stand-ins for the two float types -/
def F0 : FloatOps :=
  { ω := Nat, w0 := 0, lower := fun new w bg => decide (new < bg + w), bump := (· + 1),
    α := Nat, a0 := 0, add := fun _ acc px => acc + px, trunc := fun a => a }

/-- 2×2 Boson frames, fixed threshold 10, one-diff detection, 3-slot ring, no continuous recorder -/
def c0 : PipeCfg :=
  { det := { resX := 2, resY := 2, edge := 0, gap := 1, useOneDiff := true, deltaThresh := 5, countThresh := 1,
             tempThresh := 10, threshMin := 0, threshMax := 0, warmerOnly := false, dynamic := false,
             previewFrames := 0, ffcPeriod := 0 },
    proc := { K := 3, minF := 2, maxF := 10, trig := 1, constOn := false, testLast := 2 },
    fps := 9, lepton := false, windowOpen := true, diskOk := true, throttle := false,
    bucketFrames := 10, minLenFrames := 1 }

/-- the same with the throttle and a two-frame bucket -/
def c1 : PipeCfg := { c0 with throttle := true, bucketFrames := 2, minLenFrames := 1 }

def cold : Socket.Item := .frame [20, 0, 20, 0, 20, 0, 20, 0]
def hot : Socket.Item := .frame [90, 0, 90, 0, 90, 0, 90, 0]
/-- second pixel is zero: rejected by the parser -/
def badf : Socket.Item := .frame [20, 0, 0, 0, 20, 0, 20, 0]

/-- (per file: frames, closed, threshold), bad frames, resets, accepted, recording?, next frame id -/
def summary (p : Pipe F0) : List (List Nat × Bool × Nat) × Nat × Nat × Nat × Bool × Nat :=
  (p.files.map (fun f => (f.frames, f.closed, f.thresh)), p.badFrames, p.resets, p.accepted.length,
    p.proc.isRec, p.proc.n)

end TR.PipeLemmas.Tiny
