import TR.Socket
import Proofs.Scan
/-!
# Helper lemmas for C14 (header framing and frame alignment on the camera socket)

Everything here is about the byte-level model `TR.Socket`; the property statements are in
`Props.C14`.
-/
namespace TR.Socket

/-- bytes before the first newline go to the front of the line -/
theorem takeLine_append (body l : List Nat) (h : NL ∉ body) :
    takeLine (body ++ l) = (takeLine l).map fun p => (body ++ p.1, p.2) := by
  induction body with
  | nil => rw [List.nil_append]; cases takeLine l <;> rfl
  | cons b t ih =>
    rw [List.cons_append, takeLine, if_neg (List.ne_of_not_mem_cons h).symm, ih (List.not_mem_of_not_mem_cons h)]
    cases takeLine l <;> rfl

theorem takeLine_line (body rest : List Nat) (h : NL ∉ body) :
    takeLine (body ++ NL :: rest) = some (body ++ [NL], rest) :=
  takeLine_append body _ h

theorem takeLine_noNL (l : List Nat) (h : NL ∉ l) : takeLine l = none := by
  rw [← l.append_nil, takeLine_append l [] h]; rfl

theorem isBlank_blank (k : Nat) : isBlank (List.replicate k SP ++ [NL]) = true := by
  induction k with
  | zero => decide
  | succ k ih =>
    simp only [isBlank, List.replicate_succ, List.cons_append, List.dropWhile, beq_self_eq_true] at ih ⊢
    exact ih

theorem NL_not_mem_replicate_SP (k : Nat) : NL ∉ List.replicate k SP := by
  intro h
  have := List.eq_of_mem_replicate h
  exact absurd this (by decide)

theorem readHeader_eq (bytes : List Nat) :
    readHeader bytes =
      match takeLine bytes with
      | none => none
      | some (line, rest) =>
        if isBlank line then some ([], rest)
        else match readHeader rest with
          | some (t, r) => some (line ++ t, r)
          | none => none := by
  rw [readHeader]
  split
  · next h => rw [h]
  · next line rest h =>
    simp only [h]
    split <;> rfl

theorem readHeader_of_noLine (bytes : List Nat) (h : takeLine bytes = none) :
    readHeader bytes = none := by
  rw [readHeader_eq, h]

theorem readHeader_of_blank (bytes line rest : List Nat) (h : takeLine bytes = some (line, rest))
    (hb : isBlank line = true) : readHeader bytes = some ([], rest) := by
  rw [readHeader_eq, h]; simp [hb]

theorem readHeader_of_line (bytes line rest : List Nat) (h : takeLine bytes = some (line, rest))
    (hb : isBlank line = false) :
    readHeader bytes =
      match readHeader rest with
      | some (t, r) => some (line ++ t, r)
      | none => none := by
  rw [readHeader_eq, h]; simp [hb]

/-- a header made of well-formed non-blank lines, then a blank line: exact round trip -/
theorem readHeader_exact (lines : List (List Nat)) (k : Nat) (rest : List Nat)
    (hl : ∀ l ∈ lines, ∃ body, l = body ++ [NL] ∧ NL ∉ body ∧ isBlank l = false) :
    readHeader (lines.flatten ++ (List.replicate k SP ++ [NL]) ++ rest)
      = some (lines.flatten, rest) := by
  induction lines with
  | nil =>
    have e : ([] : List (List Nat)).flatten ++ (List.replicate k SP ++ [NL]) ++ rest
        = List.replicate k SP ++ NL :: rest := by simp
    rw [e]
    exact readHeader_of_blank _ _ _ (takeLine_line _ _ (NL_not_mem_replicate_SP k))
      (isBlank_blank k)
  | cons l ls ih =>
    obtain ⟨body, rfl, hnl, hnb⟩ := hl l (by simp)
    have ih' := ih (fun l hl' => hl l (by simp [hl']))
    have e : ((body ++ [NL]) :: ls).flatten ++ (List.replicate k SP ++ [NL]) ++ rest
        = body ++ NL :: (ls.flatten ++ (List.replicate k SP ++ [NL]) ++ rest) := by simp
    rw [e, readHeader_of_line _ _ _ (takeLine_line _ _ hnl) hnb, ih']
    simp

/-- a header cut short anywhere is an error -/
theorem readHeader_truncated (lines : List (List Nat)) (k : Nat)
    (hl : ∀ l ∈ lines, ∃ body, l = body ++ [NL] ∧ NL ∉ body ∧ isBlank l = false)
    (pre : List Nat) (hp : pre <+: lines.flatten ++ (List.replicate k SP ++ [NL]))
    (hne : pre ≠ lines.flatten ++ (List.replicate k SP ++ [NL])) :
    readHeader pre = none := by
  -- a cut inside the first line leaves no newline, a cut exactly at its end leaves `[]` as the rest: `none` both
  -- times; a later cut is the induction hypothesis on the rest (`nil`: the cut is inside the blank line)
  induction lines generalizing pre with
  | nil =>
    simp only [List.flatten_nil, List.nil_append] at hp hne
    have := (List.prefix_concat_iff.1 hp).resolve_left hne
    exact readHeader_of_noLine _ (takeLine_noNL _ fun hm => NL_not_mem_replicate_SP k (this.subset hm))
  | cons l ls ih =>
    obtain ⟨body, rfl, hnl, hnb⟩ := hl l (by simp)
    have ih' := ih (fun l hl' => hl l (by simp [hl']))
    simp only [List.flatten_cons, List.append_assoc] at hp hne
    rw [← List.append_assoc] at hp hne
    rcases prefix_append_cases hp with h1 | ⟨q, rfl, hq⟩
    · by_cases hfull : pre = body ++ [NL]
      · subst hfull
        have e : body ++ [NL] = body ++ NL :: [] := rfl
        rw [e, readHeader_of_line _ _ _ (takeLine_line _ _ hnl) hnb,
          readHeader_of_noLine [] rfl]
      · have := (List.prefix_concat_iff.1 h1).resolve_left hfull
        exact readHeader_of_noLine _ (takeLine_noNL _ fun hm => hnl (this.subset hm))
    · have hq' : q ≠ ls.flatten ++ (List.replicate k SP ++ [NL]) := fun e => hne (by rw [e])
      have e : body ++ [NL] ++ q = body ++ NL :: q := by simp
      rw [e, readHeader_of_line _ _ _ (takeLine_line _ _ hnl) hnb, ih' q hq hq']

theorem encode_cons (i : Item) (is : List Item) : encode (i :: is) = encodeItem i ++ encode is := by
  simp [encode]

theorem encode_nil : encode [] = [] := rfl

theorem parseFrames_nil (N f : Nat) : parseFrames N (f + 1) [] = ([], Ending.eofAtBoundary) := by
  simp [parseFrames]

theorem parseFrames_clear (N f : Nat) (rest : List Nat) :
    parseFrames N (f + 1) (clearMarker ++ rest)
      = (Item.clear :: (parseFrames N f rest).1, (parseFrames N f rest).2) := by
  have h1 : (clearMarker ++ rest) ≠ [] := by simp [clearMarker]
  have h2 : ¬ (clearMarker ++ rest).length < 5 := by simp [clearMarker]
  have h3 : (clearMarker ++ rest).take 5 = clearMarker := List.take_left' rfl
  have h4 : (clearMarker ++ rest).drop 5 = rest := List.drop_left' rfl
  simp only [parseFrames, h1, h2, h3, h4, if_true, if_false]

theorem parseFrames_frame (N f : Nat) (hN : 5 ≤ N) (b rest : List Nat) (hb : b.length = N)
    (hm : b.take 5 ≠ clearMarker) :
    parseFrames N (f + 1) (b ++ rest)
      = (Item.frame b :: (parseFrames N f rest).1, (parseFrames N f rest).2) := by
  have h1 : (b ++ rest) ≠ [] := by
    intro h
    have := congrArg List.length h
    simp only [List.length_append, List.length_nil] at this; omega
  have h2 : ¬ (b ++ rest).length < 5 := by simp; omega
  have h3 : (b ++ rest).take 5 ≠ clearMarker := by
    rw [List.take_append_of_le_length (by omega)]; exact hm
  have h5 : ¬ (b ++ rest).length < N := by simp; omega
  have h6 : (b ++ rest).take N = b := List.take_left' hb
  have h7 : (b ++ rest).drop N = rest := List.drop_left' hb
  simp only [parseFrames, h1, h2, h3, h5, h6, h7, if_false]

/-- valid items followed by anything: the items come out first, the loop continues on the tail -/
theorem parseFrames_append (N : Nat) (hN : 5 ≤ N) (items : List Item)
    (hv : ∀ b, Item.frame b ∈ items → b.length = N ∧ b.take 5 ≠ clearMarker)
    (f : Nat) (tail : List Nat) :
    parseFrames N (items.length + f) (encode items ++ tail)
      = (items ++ (parseFrames N f tail).1, (parseFrames N f tail).2) := by
  induction items with
  | nil => simp [encode_nil]
  | cons i is ih =>
    have ih' := ih (fun b hb => hv b (List.mem_cons_of_mem _ hb))
    have e : (i :: is).length + f = (is.length + f) + 1 := by simp; omega
    rw [e, encode_cons, List.append_assoc]
    cases i with
    | clear =>
      show parseFrames N _ (clearMarker ++ _) = _
      rw [parseFrames_clear, ih']; simp
    | frame b =>
      show parseFrames N _ (b ++ _) = _
      obtain ⟨h1, h2⟩ := hv b (List.mem_cons_self ..)
      rw [parseFrames_frame N _ hN b _ h1 h2, ih']; simp

/-- a non-empty proper prefix of an item makes the loop stop with `truncated` -/
theorem parseFrames_partial (N : Nat) (last : Item)
    (hlast : ∀ b, last = .frame b → b.length = N ∧ b.take 5 ≠ clearMarker)
    (part : List Nat) (hp : part <+: encodeItem last) (hne : part ≠ [])
    (hne' : part ≠ encodeItem last) (f : Nat) :
    parseFrames N (f + 1) part = ([], Ending.truncated) := by
  have hlen : part.length < (encodeItem last).length :=
    Nat.lt_of_le_of_ne hp.length_le fun h => hne' (hp.eq_of_length h)
  cases last with
  | clear =>
    have h2 : part.length < 5 := hlen
    simp only [parseFrames, hne, h2, if_true, if_false]
  | frame b =>
    have hlast := hlast b rfl
    have hb : part.length < N := by
      have : (encodeItem (.frame b)).length = N := hlast.1
      omega
    by_cases h5 : part.length < 5
    · simp only [parseFrames, hne, h5, if_true, if_false]
    · have h3 : part.take 5 ≠ clearMarker := by
        obtain ⟨s, hs⟩ := hp
        have hs' : part ++ s = b := hs
        rw [← hs', List.take_append_of_le_length (by omega)] at hlast
        exact hlast.2
      simp only [parseFrames, hne, h5, h3, hb, if_true, if_false]

end TR.Socket
