import Proofs.FSC10
import Proofs.C12Spec
/-!
# Proofs.C10Pipe — helper lemmas for `Props.C10Pipe` (the processor's sink calls, translated to file-system
operations, obey the recorder protocol of C10)

Nothing here mentions the translation itself (it is defined, readably, in `Props.C10Pipe`); the lemmas are
about

* the per-sink "recording open" flag of `Proofs.C12Spec` in the middle of an observation list
  (`wellFormed_mid`: a call inside a well-formed list passes its check against `openAfter` of the calls made
  before it on the same sink), and
* the invariant `Inv g n opn used` that ties a table `g : Sink → Option Nat` of open ids and a counter `n` of
  ids handed out to the two lists `opn` / `used` that `TR.C10.ValidOps` threads through an operation sequence:
  one lemma per kind of step, and
* `Block n m ops`: what a connection, the connections of a life and a life have in common — valid after
  anything that used ids below `n` only, and using ids from `[n, m)` only.
-/
namespace TR.C10Pipe
open TR.FS TR.C10 TR.C10Gen TR.C12Spec

theorem callsOf_append (s : Sink) (a b : List Obs) : callsOf s (a ++ b) = callsOf s a ++ callsOf s b := by
  simp only [callsOf, List.filterMap_append]

theorem wellFormed_mid {os : List Obs} {s : Sink} (hw : WellFormed (callsOf s os)) {pre post : List Obs}
    {cl : Call} {ok : Bool} (he : os = pre ++ Obs.call s cl ok :: post) :
    okWhen (openAfter (callsOf s pre)) (cl, ok) = true := by
  subst he
  rw [callsOf_append, callsOf_cons_call, if_pos rfl] at hw
  have h := (wellFormed_iff _).mp hw
  rw [wellFormedB, scanAll_append, scanAll, Bool.and_eq_true, Bool.and_eq_true] at h
  exact h.2.1

theorem nextOpen_can (o ok : Bool) : nextOpen o (.can, ok) = o := rfl
theorem nextOpen_write (o : Bool) (id : Nat) (ok : Bool) : nextOpen o (.write id, ok) = o := rfl
theorem nextOpen_start_true (o : Bool) : nextOpen o (.start, true) = true := rfl
theorem nextOpen_start_false (o : Bool) : nextOpen o (.start, false) = o := rfl
theorem nextOpen_stop (o ok : Bool) : nextOpen o (.stop, ok) = false := rfl

/-- `g` = the id of the open file of each sink (if any), `n` = the next fresh id; `opn` / `used` = the lists of
`TR.C10.ValidOps`.  Every open id is in `opn` (which may hold more: files abandoned by earlier connections), is
below `n`, belongs to one sink only; every id ever used is below `n`. -/
structure Inv (g : Sink → Option Nat) (n : Nat) (opn used : List Nat) : Prop where
  mem : ∀ s x, g s = some x → x ∈ opn
  lt : ∀ s x, g s = some x → x < n
  inj : ∀ s s' x, g s = some x → g s' = some x → s = s'
  used : ∀ x ∈ used, x < n

variable {g g' : Sink → Option Nat} {n : Nat} {opn used : List Nat}

/-- a fresh connection (no sink has an open file); `opn` is arbitrary -/
theorem Inv.init (hg : ∀ s, g s = none) (hu : ∀ x ∈ used, x < n) : Inv g n opn used :=
  ⟨fun s x h => (by rw [hg] at h; cases h), fun s x h => (by rw [hg] at h; cases h),
   fun s _ x h => (by rw [hg] at h; cases h), hu⟩

theorem Inv.fresh (h : Inv g n opn used) : n ∉ used := fun hm => Nat.lt_irrefl _ (h.used n hm)

theorem Inv.congr (h : Inv g n opn used) (hg : ∀ s, g' s = g s) : Inv g' n opn used :=
  ⟨fun s x e => h.mem s x ((hg s).symm.trans e), fun s x e => h.lt s x ((hg s).symm.trans e),
   fun s s' x e e' => h.inj s s' x ((hg s).symm.trans e) ((hg s').symm.trans e'), h.used⟩

/-- a start that succeeds on sink `s`: `Op.start n` -/
theorem Inv.start (h : Inv g n opn used) {s : Sink} (hg : ∀ s', g' s' = if s = s' then some n else g s') :
    Inv g' (n + 1) (n :: opn) (n :: used) := by
  refine ⟨fun s' x e => ?_, fun s' x e => ?_, fun s1 s2 x e1 e2 => ?_, fun x hx => ?_⟩
  · rw [hg] at e
    split at e
    · cases e; exact List.mem_cons_self ..
    · exact List.mem_cons_of_mem _ (h.mem s' x e)
  · rw [hg] at e
    split at e
    · cases e; exact Nat.lt_succ_self _
    · exact Nat.lt_succ_of_lt (h.lt s' x e)
  · rw [hg] at e1 e2
    split at e1
    · next h1 =>
      split at e2
      · next h2 => rw [← h1, ← h2]
      · cases e1; exact absurd (h.lt s2 _ e2) (Nat.lt_irrefl _)
    · split at e2
      · cases e2; exact absurd (h.lt s1 _ e1) (Nat.lt_irrefl _)
      · exact h.inj s1 s2 x e1 e2
  · rcases List.mem_cons.mp hx with rfl | hx
    · exact Nat.lt_succ_self _
    · exact Nat.lt_succ_of_lt (h.used x hx)

/-- a start that fails and leaves a temporary file: `Op.startFail n` -/
theorem Inv.startFail (h : Inv g n opn used) (hg : ∀ s, g' s = g s) : Inv g' (n + 1) opn (n :: used) := by
  have h' := h.congr hg
  refine ⟨h'.mem, fun s x e => Nat.lt_succ_of_lt (h'.lt s x e), h'.inj, fun x hx => ?_⟩
  rcases List.mem_cons.mp hx with rfl | hx
  · exact Nat.lt_succ_self _
  · exact Nat.lt_succ_of_lt (h.used x hx)

/-- a start that fails before any file is created: no operation, the id is skipped -/
theorem Inv.skip (h : Inv g n opn used) (hg : ∀ s, g' s = g s) : Inv g' (n + 1) opn used := by
  have h' := h.congr hg
  exact ⟨h'.mem, fun s x e => Nat.lt_succ_of_lt (h'.lt s x e), h'.inj,
    fun x hx => Nat.lt_succ_of_lt (h.used x hx)⟩

/-- sink `s` forgets its file and nothing happens in the file system (it had none, or the file is abandoned) -/
theorem Inv.clear (h : Inv g n opn used) {s : Sink} (hg : ∀ s', g' s' = if s = s' then none else g s') :
    Inv g' n opn used := by
  have sub : ∀ s' x, g' s' = some x → g s' = some x := by
    intro s' x e
    rw [hg] at e
    split at e
    · cases e
    · exact e
  exact ⟨fun s' x e => h.mem s' x (sub s' x e), fun s' x e => h.lt s' x (sub s' x e),
    fun s1 s2 x e1 e2 => h.inj s1 s2 x (sub s1 x e1) (sub s2 x e2), h.used⟩

/-- a stop (or a discard) of the open file `i` of sink `s`: `Op.stop i` / `Op.discard i` -/
theorem Inv.stop (h : Inv g n opn used) {s : Sink} {i : Nat} (hi : g s = some i)
    (hg : ∀ s', g' s' = if s = s' then none else g s') : Inv g' n (opn.erase i) used := by
  have h' := h.clear hg
  refine ⟨fun s' x e => ?_, h'.lt, h'.inj, h'.used⟩
  rw [hg] at e
  split at e
  · cases e
  · next hne =>
    have hxi : x ≠ i := fun hx => hne (h.inj s s' x (hx ▸ hi) e)
    exact (List.mem_erase_of_ne hxi).mpr (h.mem s' x e)

/-- `ops` may follow anything that used only ids below `n`, whatever recordings that left open, and the ids it
starts lie in `[n, m)`: what one connection, the connections of one life, and the lives after it are -/
structure Block (n m : Nat) (ops : List Op) : Prop where
  valid : ∀ opn used, (∀ x ∈ used, x < n) → ValidOps opn used ops
  le : n ≤ m
  ids : ∀ x ∈ startedIds ops, n ≤ x ∧ x < m

theorem Block.nil (n : Nat) : Block n n [] := ⟨fun _ _ _ => .nil, Nat.le_refl _, fun _ hx => nomatch hx⟩

end TR.C10Pipe
