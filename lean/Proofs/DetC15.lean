import Proofs.Det
/-!
# Proofs.DetC15 — helper lemmas for C15 (dynamic threshold / background estimate)

`pixelsChanged` leaves the weight and `updateBackground` an unreplaced pixel alone; the background fields of
`detect` on a static and on a dynamic frame (in terms of `bgNext`, `threshNext`, `changedNext` of `Proofs.Det`);
the arithmetic of `clampThresh`.
-/
namespace TR.P15
open TR.Det
variable {F : FloatOps}

theorem pixelsChanged_weight (c : DCfg) (d : Det F) (f : Frame) (a b : Bool) :
    (pixelsChanged c d f a b).1.weight = d.weight := by
  rw [pixelsChanged_eq]

/-- a pixel that is not replaced keeps the old background value -/
theorem updateBackground_bg_keep (c : DCfg) (d : Det F) (f : Frame) (y x : Nat)
    (hn : d.backgroundFrames ≠ 0)
    (hk : F.lower (f y x) (d.weight y x) (d.bg y x) = false) :
    (updateBackground c d f false).1.bg y x = d.bg y x := by
  rw [updateBackground_eq]
  simp [bgNext, replaces, hn, hk]

/-- an FFC-affected frame, and any frame with a fixed threshold, leaves the background fields alone -/
theorem detect_static (c : DCfg) (d : Det F) (f : Frame) (ffc : Bool)
    (h : (c.dynamic && !ffc) = false) :
    (detect c d f ffc).1.bg = d.bg ∧ (detect c d f ffc).1.tempThresh = d.tempThresh ∧
      (detect c d f ffc).1.backgroundFrames = d.backgroundFrames := by
  rw [detect_eq', pre_static h]
  exact ⟨rfl, rfl, rfl⟩

/-- a dynamic non-FFC frame: the background step with `prevFFC` = the flag the previous frame left -/
theorem detect_dynamic (c : DCfg) (d : Det F) (f : Frame) (hdyn : c.dynamic = true) :
    (detect c d f false).1.bg = bgNext c d f d.affected ∧
      (detect c d f false).1.tempThresh = threshNext c d f ∧
      (detect c d f false).1.backgroundFrames = d.backgroundFrames + 1 ∧
      (detect c d f false).1.bgSeeded = true := by
  rw [detect_eq', pre_dynamic hdyn]
  exact ⟨rfl, rfl, rfl, rfl⟩

/-- the `changed` result of the background update `detect` makes -/
theorem detect_changed (c : DCfg) (d : Det F) (f : Frame) :
    (updateBackground c { d with affected := false } f d.affected).2.2 = changedNext c d f d.affected := by
  rw [updateBackground_eq]
  rfl

theorem clampThresh_ge_min (c : DCfg) (a : Nat) (hmin : c.threshMin ≠ 0)
    (hmm : c.threshMax = 0 ∨ c.threshMin ≤ c.threshMax) : c.threshMin ≤ clampThresh c a := by
  unfold clampThresh
  simp only [hmin, ne_eq, not_false_eq_true, if_true]
  split <;> omega

theorem clampThresh_le_max (c : DCfg) (a : Nat) (hmax : c.threshMax ≠ 0) :
    clampThresh c a ≤ c.threshMax := by
  unfold clampThresh
  simp only [hmax, ne_eq, not_false_eq_true, if_true]
  omega

theorem clampThresh_inside (c : DCfg) (a : Nat) (hmin : c.threshMin = 0 ∨ c.threshMin ≤ a)
    (hmax : c.threshMax = 0 ∨ a ≤ c.threshMax) : clampThresh c a = a := by
  unfold clampThresh
  simp only []
  split <;> split <;> omega

end TR.P15
