import Proofs.Det
/-!
# Proofs.DetC08 — relational (two-run) invariants of the detector model

Two runs of `Det.stepEv` over event lists with the same skeleton are kept in a relation `Rel1`
(frames equal on the interior, any threshold mode) resp. `Rel2` (frames equal on the interior after
raising to the fixed threshold); related states give equal verdicts.  Both rest on one step lemma,
`pixelsChanged_rel`: floored rings related slot by slot by any `P` under which the diffs agree.
-/
namespace TR.C08
open TR.Det

variable {F : FloatOps}

/-- two event lists with the same skeleton (resets, FFC flags) whose frames agree on the interior -/
inductive SameInterior (c : DCfg) : List DEv → List DEv → Prop
  | nil : SameInterior c [] []
  | frame {f g : Frame} {ffc : Bool} {as bs : List DEv} : IntEq c f g → SameInterior c as bs →
      SameInterior c (.frame f ffc :: as) (.frame g ffc :: bs)
  | reset {as bs : List DEv} : SameInterior c as bs → SameInterior c (.reset :: as) (.reset :: bs)

/-- two frames agree on the interior once both are raised to the threshold T -/
def FloorEq (c : DCfg) (f g : Frame) : Prop :=
  ∀ y x, c.inI y x = true → max (f y x) c.tempThresh = max (g y x) c.tempThresh

/-- same shape as `SameInterior`, frames related by `FloorEq` -/
inductive SameFloored (c : DCfg) : List DEv → List DEv → Prop
  | nil : SameFloored c [] []
  | frame {f g : Frame} {ffc : Bool} {as bs : List DEv} : FloorEq c f g → SameFloored c as bs →
      SameFloored c (.frame f ffc :: as) (.frame g ffc :: bs)
  | reset {as bs : List DEv} : SameFloored c as bs → SameFloored c (.reset :: as) (.reset :: bs)

theorem FloorEq.refl (c : DCfg) (f : Frame) : FloorEq c f f := fun _ _ _ => rfl

theorem SameInterior.skel {c : DCfg} {as bs : List DEv} (h : SameInterior c as bs) :
    SameSkel (IntEq c) as bs := by
  induction h with
  | nil => exact .nil
  | frame hfg _ ih => exact .frame hfg ih
  | reset _ ih => exact .reset ih

theorem SameFloored.skel {c : DCfg} {as bs : List DEv} (h : SameFloored c as bs) :
    SameSkel (FloorEq c) as bs := by
  induction h with
  | nil => exact .nil
  | frame hfg _ ih => exact .frame hfg ih
  | reset _ ih => exact .reset ih

/-- same structure, slot contents related by `P` -/
structure RingRel (P : Frame → Frame → Prop) (a b : Ring Frame) : Prop where
  size : a.size = b.size
  cur : a.cur = b.cur
  full : a.full = b.full
  oldest : a.oldest = b.oldest
  slots : ∀ i, P (a.slots i) (b.slots i)

namespace RingRel
variable {P : Frame → Frame → Prop} {a b : Ring Frame}

theorem new (n : Nat) (z : Frame) (hz : P z z) : RingRel P (Ring.new n z) (Ring.new n z) :=
  ⟨rfl, rfl, rfl, rfl, fun _ => hz⟩

theorem write (h : RingRel P a b) {v w : Frame} (hv : P v w) :
    RingRel P (a.write v) (b.write w) :=
  ⟨h.size, h.cur, h.full, h.oldest, fun i => by
    show P (if i = a.cur then v else a.slots i) (if i = b.cur then w else b.slots i)
    rw [h.cur]
    split
    · exact hv
    · exact h.slots i⟩

theorem move (h : RingRel P a b) : RingRel P a.move b.move := by
  refine ⟨h.size, ?_, ?_, ?_, h.slots⟩
  · show (a.cur + 1) % a.size = (b.cur + 1) % b.size
    rw [h.cur, h.size]
  · show (a.full || (a.cur + 1) % a.size == 0) = (b.full || (b.cur + 1) % b.size == 0)
    rw [h.cur, h.size, h.full]
  · show (if a.oldest = some ((a.cur + 1) % a.size) then none else a.oldest) =
      (if b.oldest = some ((b.cur + 1) % b.size) then none else b.oldest)
    rw [h.cur, h.size, h.oldest]

theorem reset (h : RingRel P a b) : RingRel P a.reset b.reset :=
  ⟨h.size, rfl, rfl, rfl, h.slots⟩

theorem setAsOldest (h : RingRel P a b) : RingRel P a.setAsOldest b.setAsOldest :=
  ⟨h.size, h.cur, h.full, by show some a.cur = some b.cur; rw [h.cur], h.slots⟩

theorem current (h : RingRel P a b) : P a.current b.current := by
  show P (a.slots a.cur) (b.slots b.cur)
  rw [h.cur]; exact h.slots _

theorem oldestIdx (h : RingRel P a b) : a.oldestIdx = b.oldestIdx := by
  unfold Ring.oldestIdx Ring.next
  rw [h.oldest, h.cur, h.size]

theorem oldestFrame (h : RingRel P a b) : P a.oldestFrame b.oldestFrame := by
  show P (a.slots a.oldestIdx) (b.slots b.oldestIdx)
  rw [h.oldestIdx]; exact h.slots _

end RingRel

theorem pixelsChanged_rel {P : Frame → Frame → Prop} {c : DCfg} {dA dB : Det F} {f g : Frame}
    (hfl : RingRel P dA.floored dB.floored) (hdf : RingRel (IntEq c) dA.diffs dB.diffs)
    (hfd : dA.firstDiff = dB.firstDiff) (hfg : P f g)
    (hdiff : ∀ u v, P u v → ∀ y x, c.inI y x = true →
      pixDiff c.warmerOnly dA.tempThresh (f y x) (u y x) =
        pixDiff c.warmerOnly dB.tempThresh (g y x) (v y x))
    (ffc p : Bool) :
    RingRel P (pixelsChanged c dA f ffc p).1.floored (pixelsChanged c dB g ffc p).1.floored ∧
      RingRel (IntEq c) (pixelsChanged c dA f ffc p).1.diffs (pixelsChanged c dB g ffc p).1.diffs ∧
      (pixelsChanged c dA f ffc p).1.firstDiff = (pixelsChanged c dB g ffc p).1.firstDiff ∧
      (pixelsChanged c dA f ffc p).2 = (pixelsChanged c dB g ffc p).2 := by
  have hw := hfl.write hfg
  have hnd : IntEq c (newDiff c dA.tempThresh dA f) (newDiff c dB.tempThresh dB g) := fun y x hi => by
    simp only [newDiff, hi, if_true]
    exact hdiff _ _ hw.oldestFrame y x hi
  have hdfs := (hdf.write hnd).move
  rw [pixelsChanged_eq, pixelsChanged_eq]
  refine ⟨?_, hdfs, by simp only [hfd], ?_⟩
  · simp only [hfd]
    split
    · exact hw.setAsOldest.move
    · exact hw.move
  · simp only [hfd, countChanged_congr c hnd hdfs.current]

/-- the relation between the two runs for `c08_border` -/
structure Rel1 (c : DCfg) (dA dB : Det F) : Prop where
  floored : RingRel (IntEq c) dA.floored dB.floored
  diffs : RingRel (IntEq c) dA.diffs dB.diffs
  firstDiff : dA.firstDiff = dB.firstDiff
  tempThresh : dA.tempThresh = dB.tempThresh
  bg : IntEq c dA.bg dB.bg
  bgSeeded : dA.bgSeeded = dB.bgSeeded
  weight : ∀ y x, c.inI y x = true → dA.weight y x = dB.weight y x
  backgroundFrames : dA.backgroundFrames = dB.backgroundFrames
  affected : dA.affected = dB.affected

theorem Rel1.init (F : FloatOps) (c : DCfg) : Rel1 c (Det.init F c) (Det.init F c) :=
  ⟨RingRel.new _ _ (IntEq.refl c _), RingRel.new _ _ (IntEq.refl c _), rfl, rfl,
    IntEq.refl c _, rfl, fun _ _ _ => rfl, rfl, rfl⟩

theorem Rel1.reset {c : DCfg} {dA dB : Det F} (h : Rel1 c dA dB) : Rel1 c dA.reset dB.reset :=
  ⟨h.floored.reset, h.diffs.reset, h.firstDiff, h.tempThresh, h.bg, h.bgSeeded, h.weight, rfl,
    h.affected⟩

theorem Rel1.updateBackground {c : DCfg} {dA dB : Det F} (h : Rel1 c dA dB) {f g : Frame}
    (hfg : IntEq c f g) (p : Bool) :
    Rel1 c (Det.updateBackground c dA f p).1 (Det.updateBackground c dB g p).1 ∧
      (Det.updateBackground c dA f p).2.1 = (Det.updateBackground c dB g p).2.1 ∧
      (Det.updateBackground c dA f p).2.2 = (Det.updateBackground c dB g p).2.2 := by
  obtain ⟨hb, hw, hc⟩ := next_congr c h.backgroundFrames h.bg h.weight hfg p
  rw [updateBackground_eq, updateBackground_eq]
  exact ⟨⟨h.floored, h.diffs, h.firstDiff, h.tempThresh, hb, rfl, hw,
    congrArg (· + 1) h.backgroundFrames, h.affected⟩, meanOf_congr c hb, hc⟩

theorem Rel1.pre {c : DCfg} {dA dB : Det F} (h : Rel1 c dA dB) {f g : Frame}
    (hfg : IntEq c f g) (ffc : Bool) : Rel1 c (pre c dA f ffc) (pre c dB g ffc) := by
  obtain ⟨hb, hw, hc⟩ := next_congr c h.backgroundFrames h.bg h.weight hfg dB.affected
  unfold Det.pre threshNext
  rw [h.affected, hc, meanOf_congr c hb, h.backgroundFrames, h.tempThresh]
  split
  · exact ⟨h.floored, h.diffs, h.firstDiff, rfl, hb, rfl, hw, rfl, rfl⟩
  · exact ⟨h.floored, h.diffs, h.firstDiff, rfl, h.bg, h.bgSeeded, h.weight, rfl, rfl⟩

theorem Rel1.detect {c : DCfg} {dA dB : Det F} (h : Rel1 c dA dB) {f g : Frame}
    (hfg : IntEq c f g) (ffc : Bool) :
    Rel1 c (Det.detect c dA f ffc).1 (Det.detect c dB g ffc).1 ∧
      (Det.detect c dA f ffc).2 = (Det.detect c dB g ffc).2 := by
  have hp := h.pre hfg ffc
  obtain ⟨h1, h2, h3, h4⟩ := pixelsChanged_rel hp.floored hp.diffs hp.firstDiff hfg
    (fun u v huv y x hi => by rw [hp.tempThresh, hfg y x hi, huv y x hi]) ffc dB.affected
  rw [detect_eq, detect_eq, h.affected]
  refine ⟨⟨h1, h2, h3, ?_, ?_, ?_, ?_, ?_, ?_⟩, h4⟩ <;> rw [pixelsChanged_eq, pixelsChanged_eq]
  · exact hp.tempThresh
  · exact hp.bg
  · exact hp.bgSeeded
  · exact hp.weight
  · exact hp.backgroundFrames
  · exact hp.affected

theorem Rel1.run {c : DCfg} {as bs : List DEv} (hs : SameInterior c as bs) (dA dB : Det F)
    (h : Rel1 c dA dB) :
    Det.outputs c dA as = Det.outputs c dB bs ∧ Rel1 c (Det.after c dA as) (Det.after c dB bs) :=
  ⟨hs.skel.outputs_eq (R := Rel1 c) (fun ffc h hfg => h.detect hfg ffc) Rel1.reset _ _ h,
    hs.skel.after_rel (R := Rel1 c) (fun ffc h hfg => (h.detect hfg ffc).1) Rel1.reset _ _ h⟩

/-- the relation between the two runs for `c08_cold` -/
structure Rel2 (c : DCfg) (dA dB : Det F) : Prop where
  floored : RingRel (FloorEq c) dA.floored dB.floored
  diffs : RingRel (IntEq c) dA.diffs dB.diffs
  firstDiff : dA.firstDiff = dB.firstDiff
  affected : dA.affected = dB.affected
  thA : dA.tempThresh = c.tempThresh
  thB : dB.tempThresh = c.tempThresh

theorem Rel2.init (F : FloatOps) (c : DCfg) : Rel2 c (Det.init F c) (Det.init F c) :=
  ⟨RingRel.new _ _ (FloorEq.refl c _), RingRel.new _ _ (IntEq.refl c _), rfl, rfl, rfl, rfl⟩

theorem Rel2.reset {c : DCfg} {dA dB : Det F} (h : Rel2 c dA dB) : Rel2 c dA.reset dB.reset :=
  ⟨h.floored.reset, h.diffs.reset, h.firstDiff, h.affected, h.thA, h.thB⟩

theorem Rel2.detect {c : DCfg} (hdyn : c.dynamic = false) {dA dB : Det F} (h : Rel2 c dA dB)
    {f g : Frame} (hfg : FloorEq c f g) (ffc : Bool) :
    Rel2 c (Det.detect c dA f ffc).1 (Det.detect c dB g ffc).1 ∧
      (Det.detect c dA f ffc).2 = (Det.detect c dB g ffc).2 := by
  have hs : (c.dynamic && !ffc) = false := by rw [hdyn]; rfl
  obtain ⟨h1, h2, h3, h4⟩ := pixelsChanged_rel (dA := { dA with affected := ffc })
    (dB := { dB with affected := ffc }) h.floored h.diffs h.firstDiff hfg
    (fun u v huv y x hi => by
      show pixDiff _ dA.tempThresh _ _ = pixDiff _ dB.tempThresh _ _
      simp only [pixDiff, h.thA, h.thB, hfg y x hi, huv y x hi]) ffc dB.affected
  rw [detect_eq, detect_eq, pre_static hs, pre_static hs, h.affected]
  refine ⟨⟨h1, h2, h3, ?_, ?_, ?_⟩, h4⟩ <;> rw [pixelsChanged_eq]
  · rw [pixelsChanged_eq]
  · exact h.thA
  · exact h.thB

theorem Rel2.outputs (F : FloatOps) {c : DCfg} (hdyn : c.dynamic = false) {as bs : List DEv}
    (hs : SameSkel (FloorEq c) as bs) :
    Det.outputs c (Det.init F c) as = Det.outputs c (Det.init F c) bs :=
  hs.outputs_eq (R := Rel2 c) (fun ffc h hfg => h.detect hdyn hfg ffc) Rel2.reset _ _ (Rel2.init F c)

end TR.C08
