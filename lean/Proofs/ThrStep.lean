import TR.ThrMon
/-!
# Proofs.ThrStep — what one request does to the throttle, exactly

`TState.step` as four equations (start / write while recording / write while idle / stop): the state
reached and the observations made, in terms of `Bucket.adjust` and `Bucket.take1` only.  Every
property of the throttle (C05, C06, C11, the compositions) is read off these, together with the
bucket fact it needs (potential, lower bound on `avail`, exact count at tick 0).
-/
namespace TR
namespace TState

theorem step_start (s : TState) (tk tag : Nat) (ok : Bool) :
    s.step (.start tk tag ok) =
      if s.minLen ≤ (s.bucket.adjust tk).avail then
        if ok then ({ s with bucket := s.bucket.adjust tk, recording := true, tag := tag },
                    [.bStart tag true, .ret true])
        else ({ s with bucket := s.bucket.adjust tk }, [.bStart tag false, .ret false])
      else ({ s with bucket := s.bucket.adjust tk, tag := tag },
            if s.recording then [.ret true] else [.throttled, .ret true]) := by
  by_cases h : s.minLen ≤ (s.bucket.adjust tk).avail
  · cases ok <;> simp only [step, maybeStart, Bucket.available, ge_iff_le, h, if_true] <;> rfl
  · cases hr : s.recording <;>
      simp only [step, maybeStart, Bucket.available, ge_iff_le, h, hr, if_false] <;> rfl

/-- a write into an open file takes a token, or finds none and cuts the file -/
theorem step_write_rec (s : TState) (tk id : Nat) (sok wok pok : Bool) (hr : s.recording = true) :
    s.step (.write tk id sok wok pok) =
      if 0 < (s.bucket.take1 tk).2 then
        ({ s with bucket := (s.bucket.take1 tk).1 }, [.bWrite id wok, .ret wok])
      else ({ s with bucket := (s.bucket.take1 tk).1, recording := false },
            [.throttled, .bStop pok, .ret pok]) := by
  by_cases h : 0 < (s.bucket.take1 tk).2 <;>
    simp only [step, takeAndWrite, stopRec, hr, gt_iff_lt, h, if_true, if_false] <;> rfl

/-- a write while idle: the restart path (`maybeStart` with the stored tag), then the write proper -/
theorem step_write_idle (s : TState) (tk id : Nat) (sok wok pok : Bool) (hr : s.recording = false) :
    s.step (.write tk id sok wok pok) =
      if s.minLen ≤ (s.bucket.adjust tk).avail then
        if sok then
          if 0 < ((s.bucket.adjust tk).take1 tk).2 then
            ({ s with bucket := ((s.bucket.adjust tk).take1 tk).1, recording := true },
             [.bStart s.tag true, .bWrite id wok, .ret wok])
          else ({ s with bucket := ((s.bucket.adjust tk).take1 tk).1 },
                [.bStart s.tag true, .throttled, .bStop pok, .ret pok])
        else ({ s with bucket := s.bucket.adjust tk }, [.bStart s.tag false, .ret false])
      else ({ s with bucket := s.bucket.adjust tk }, [.ret true]) := by
  by_cases h : s.minLen ≤ (s.bucket.adjust tk).avail
  · cases sok
    · simp only [step, maybeStart, Bucket.available, ge_iff_le, h, hr, Bool.not_false, Bool.false_eq_true, if_true,
        if_false]
      rfl
    · by_cases h' : 0 < ((s.bucket.adjust tk).take1 tk).2 <;>
        simp only [step, maybeStart, Bucket.available, takeAndWrite, stopRec, ge_iff_le, gt_iff_lt, h, h', hr,
          Bool.not_true, Bool.false_eq_true, if_true, if_false] <;> rfl
  · simp only [step, maybeStart, Bucket.available, ge_iff_le, h, hr, if_false] <;> rfl

theorem step_stop (s : TState) (ok : Bool) :
    s.step (.stop ok) =
      if s.recording then ({ s with recording := false }, [.bStop ok, .ret ok]) else (s, [.ret true]) := by
  cases hr : s.recording <;> simp only [step, stopRec, hr, if_true] <;> rfl

end TState

/-- the recorder protocol `(start write* stop)*`: when request `r` is issued, and the flag afterwards -/
def Issued (u : UState) (r : TReq) (up : Bool) : Prop :=
  match r with
  | .start .. => u.upOpen = false ∧ up = retOk (u.t.step r).2
  | .write .. => u.upOpen = true ∧ up = true
  | .stop _ => u.upOpen = true ∧ up = false

theorem ustep_cases (u : UState) (r : TReq) :
    ustep u r = (u, none) ∨
    ∃ up, ustep u r = ({ t := (u.t.step r).1, upOpen := up }, some (u.t.step r).2) ∧ Issued u r up := by
  cases r <;> cases h : u.upOpen
  case start.false => exact .inr ⟨_, by simp only [ustep, h]; rfl, h, rfl⟩
  case write.true => exact .inr ⟨true, by simp only [ustep, h]; rfl, h, rfl⟩
  case stop.true => exact .inr ⟨false, by simp only [ustep, h]; rfl, h, rfl⟩
  all_goals exact .inl (by simp only [ustep, h]; rfl)

theorem utrace_foldl {μ : Type} (f : μ → TStep → μ) (I : UState → μ → Prop)
    (hstep : ∀ u m r up, I u m → Issued u r up →
      I { t := (u.t.step r).1, upOpen := up } (f m ⟨r, (u.t.step r).2⟩)) :
    ∀ (reqs : List TReq) (u : UState) (m : μ), I u m → ∃ u', I u' ((utrace u reqs).foldl f m) := by
  intro reqs
  induction reqs with
  | nil => intro u m h; exact ⟨u, h⟩
  | cons r rest ih =>
    intro u m h
    rcases ustep_cases u r with hn | ⟨up, hs, hi⟩
    · simp only [utrace, hn]; exact ih u m h
    · simp only [utrace, hs, List.foldl_cons]; exact ih _ _ (hstep u m r up h hi)

end TR
