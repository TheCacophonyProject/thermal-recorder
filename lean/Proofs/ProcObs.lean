import Proofs.ProcFaults
/-!
# Proofs.ProcObs — what the monitors' observation predicates see of one step

The monitors of the motion sink (`M3`, `M4`, `M13`) judge an event by five predicates on its observation list:
`hasStartOk`, `hasStop`, `hasCan`, `hasStartAny`, `Step.motionWriteFault`.  Here they are evaluated once on the
parts of a step given by `Proofs.ProcStep`: they are list homomorphisms (simp set), the calls of the continuous
and the test recorder are invisible to them (`Silent`), and `process_summary` gives their values on the motion
path together with the new recording fields.  `frame_summary` is the same for a whole frame event, with its two
cases `frame_rec` (the frame is written to a recording) and `frame_idle`.  (The predicates of `M13` and `M17`
about the other sinks, `writesGarbage`, `obsOf`, `sinkFault`, are treated in `Proofs.ProcC12`.)
-/
namespace TR
open PState

namespace P03

/-- the predicate behind `Step.motionWriteFault` -/
def mwf (obs : List Obs) : Bool :=
  obs.any fun o => match o with
    | .call .motion (.write _) false => true
    | _ => false

theorem motionWriteFault_eq (e : Ev) (obs : List Obs) : Step.motionWriteFault ⟨e, obs⟩ = mwf obs := rfl

@[simp] theorem hasStop_nil : hasStop [] = false := rfl
@[simp] theorem hasStartOk_nil : hasStartOk [] = false := rfl
@[simp] theorem hasCan_nil : hasCan [] = false := rfl
@[simp] theorem hasStartAny_nil : hasStartAny [] = false := rfl
@[simp] theorem mwf_nil : mwf [] = false := rfl

@[simp] theorem hasStop_cons (o : Obs) (l : List Obs) :
    hasStop (o :: l) = ((match o with | .call .motion .stop _ => true | _ => false) || hasStop l) := rfl
@[simp] theorem hasStartOk_cons (o : Obs) (l : List Obs) :
    hasStartOk (o :: l) = ((match o with | .call .motion .start true => true | _ => false) || hasStartOk l) := rfl
@[simp] theorem hasCan_cons (o : Obs) (l : List Obs) :
    hasCan (o :: l) = ((match o with | .call .motion .can _ => true | _ => false) || hasCan l) := rfl
@[simp] theorem hasStartAny_cons (o : Obs) (l : List Obs) :
    hasStartAny (o :: l) = ((match o with | .call .motion .start _ => true | _ => false) || hasStartAny l) := rfl
@[simp] theorem mwf_cons (o : Obs) (l : List Obs) :
    mwf (o :: l) = ((match o with | .call .motion (.write _) false => true | _ => false) || mwf l) := rfl

@[simp] theorem hasStop_append (a b : List Obs) : hasStop (a ++ b) = (hasStop a || hasStop b) :=
  List.any_append
@[simp] theorem hasStartOk_append (a b : List Obs) : hasStartOk (a ++ b) = (hasStartOk a || hasStartOk b) :=
  List.any_append
@[simp] theorem hasCan_append (a b : List Obs) : hasCan (a ++ b) = (hasCan a || hasCan b) := List.any_append
@[simp] theorem hasStartAny_append (a b : List Obs) :
    hasStartAny (a ++ b) = (hasStartAny a || hasStartAny b) := List.any_append
@[simp] theorem mwf_append (a b : List Obs) : mwf (a ++ b) = (mwf a || mwf b) := List.any_append

/-- all five motion-sink predicates vanish on a list -/
def Silent (l : List Obs) : Prop :=
  hasStop l = false ∧ hasStartOk l = false ∧ hasCan l = false ∧ hasStartAny l = false ∧ mwf l = false

end P03
open P03

theorem silent_of_calls {k : Sink} (hk : k ≠ .motion) {l : List Obs}
    (h : ∀ o ∈ l, ∃ cl ok, o = Obs.call k cl ok) : Silent l := by
  induction l with
  | nil => exact ⟨rfl, rfl, rfl, rfl, rfl⟩
  | cons o l ih =>
    obtain ⟨cl, ok, rfl⟩ := h o (List.mem_cons_self ..)
    obtain ⟨h1, h2, h3, h4, h5⟩ := ih fun o ho => h o (List.mem_cons_of_mem _ ho)
    cases k <;> first | exact absurd rfl hk | exact ⟨by simp [h1], by simp [h2], by simp [h3], by simp [h4], by simp [h5]⟩

theorem cycleObs_silent {k : Sink} (hk : k ≠ .motion) (id : Nat) (wasOpen starting sOk wOk full eOk : Bool) :
    Silent (cycleObs k id wasOpen starting sOk wOk full eOk) :=
  silent_of_calls hk (cycleObs_calls k id wasOpen starting sOk wOk full eOk)

theorem constObs_silent (c : PCfg) (cr id : Nat) (f : Faults) : Silent (constObs c cr id f) :=
  cycleObs_silent (by decide) ..

theorem testObs_silent (c : PCfg) (s : PState) (id : Nat) (f : Faults) : Silent (testObs c s id f) :=
  cycleObs_silent (by decide) ..

theorem preRun_quiet (s : PState) (f : Faults) :
    hasStop (preRun s f).1 = false ∧ hasStartOk (preRun s f).1 = false ∧
    hasCan (preRun s f).1 = false ∧ hasStartAny (preRun s f).1 = false := by
  refine ⟨?_, ?_, ?_, ?_⟩ <;> refine List.any_eq_false.2 fun o ho => ?_ <;>
    rcases mem_preRun ho with ⟨_, rfl⟩ | ⟨_, _, _, _, _, rfl, _⟩ <;> exact Bool.false_ne_true

/-- a recording is open while the frame is written (`1`: after the detection branch, `r1` of `process`) -/
def rec1 (c : PCfg) (s : PState) (motion : Bool) (f : Faults) : Bool := s.isRec || starts c s motion f

/-- `writeUntil` after the detection branch, which is its value at the stop test -/
def wu1 (c : PCfg) (s : PState) (motion : Bool) (f : Faults) : Nat :=
  if s.isRec then (if motion then min (s.framesWritten + c.minF) c.maxF else s.writeUntil)
  else if starts c s motion f && (preRun s f).2.1 then c.minF else s.writeUntil

/-- the frame is the last of its recording: the stop test after the write, `framesWritten ≥ writeUntil`, passes -/
def stops (c : PCfg) (s : PState) (motion : Bool) (f : Faults) : Bool :=
  rec1 c s motion f && decide (wu1 c s motion f ≤ s.framesWritten + 1)

/-- The motion path of one frame in terms of `starts`, `rec1`, `wu1`, `stops`: what the monitors see, and
the new recording fields. -/
theorem process_summary (c : PCfg) (s : PState) (motion : Bool) (f : Faults) :
    hasStartOk (process c s motion f).2 = starts c s motion f ∧
    hasCan (process c s motion f).2 = (attempt c s motion && f.win) ∧
    hasStartAny (process c s motion f).2 = (attempt c s motion && f.win && f.can) ∧
    hasStop (process c s motion f).2 = stops c s motion f ∧
    (process c s motion f).1.isRec = (rec1 c s motion f && !stops c s motion f) ∧
    (process c s motion f).1.triggered =
      (if stops c s motion f then 0 else if motion then s.triggered + 1 else 0) ∧
    (process c s motion f).1.framesWritten =
      (if rec1 c s motion f then (if stops c s motion f then 0 else s.framesWritten + 1) else s.framesWritten) ∧
    (process c s motion f).1.writeUntil =
      (if rec1 c s motion f then (if stops c s motion f then 0 else wu1 c s motion f) else s.writeUntil) ∧
    (process c s motion f).1.ring =
      (if stops c s motion f then s.ring.move.setAsOldest else s.ring.move) := by
  rcases process_cases c s motion f with ⟨hr, e⟩ | ⟨hr, hs, q, hq, e⟩ | ⟨hr, hm, hs, e⟩ <;> rw [e]
  · simp only [andThen_fst, andThen_snd, pStop_eq, stopsNow, rec1, stops, wu1, hr, starts, attempt]
    cases motion
    · by_cases hd : s.writeUntil ≤ s.framesWritten + 1 <;> simp [hd]
    · by_cases hd : min (s.framesWritten + c.minF) c.maxF ≤ s.framesWritten + 1 <;> simp [hd]
  · have hR : rec1 c s motion f = false := by rw [rec1, hr, hs]; rfl
    have hS : stops c s motion f = false := by rw [stops, hR]; rfl
    -- nothing is recorded; which gates were consulted is the reason of the refusal
    obtain ⟨g1, g2, g3, g4⟩ : hasStartOk q = false ∧ hasCan q = (attempt c s motion && f.win) ∧
        hasStartAny q = (attempt c s motion && f.win && f.can) ∧ hasStop q = false := by
      cases hq with
      | still => exact ⟨rfl, by simp [attempt], by simp [attempt], rfl⟩
      | quiet h => exact ⟨rfl, h.symm, by rw [h]; rfl, rfl⟩
      | disk ha hw hc => exact ⟨rfl, by rw [ha, hw]; rfl, by rw [ha, hw, hc]; rfl, rfl⟩
      | file ha hw hc _ => exact ⟨rfl, by rw [ha, hw]; rfl, by rw [ha, hw, hc]; rfl, rfl⟩
    rw [hs, hR, hS]
    exact ⟨g1, g2, g3, g4, hr, rfl, rfl, rfl, rfl⟩
  · obtain ⟨q1, q2, q3, q4⟩ := preRun_quiet s f
    subst hm
    simp only [starts, Bool.and_eq_true] at hs
    obtain ⟨⟨⟨ha, hw⟩, hc⟩, hms⟩ := hs
    simp only [andThen_fst, andThen_snd, pStop_eq, stopsNow, rec1, stops, wu1, hr, starts, ha, hw, hc, hms]
    cases (preRun s f).2.1
    · by_cases hd : s.writeUntil ≤ s.framesWritten + 1 <;> simp [hd, q1, q2, q3, q4, P01.startPre]
    · by_cases hd : c.minF ≤ s.framesWritten + 1 <;> simp [hd, q1, q2, q3, q4, P01.startPre]

/-- `starts`, `rec1`, `wu1`, `stops` read the state through these five values only -/
theorem summary_congr (c : PCfg) (a b : PState) (m : Bool) (f : Faults) (hr : a.isRec = b.isRec)
    (hfw : a.framesWritten = b.framesWritten) (hwu : a.writeUntil = b.writeUntil)
    (hatt : attempt c a m = attempt c b m) (hpre : (preRun a f).2.1 = (preRun b f).2.1) :
    starts c a m f = starts c b m f ∧ rec1 c a m f = rec1 c b m f ∧ wu1 c a m f = wu1 c b m f ∧
    stops c a m f = stops c b m f := by
  have h1 : starts c a m f = starts c b m f := by unfold starts; rw [hatt]
  have h2 : rec1 c a m f = rec1 c b m f := by unfold rec1; rw [hr, h1]
  have h3 : wu1 c a m f = wu1 c b m f := by unfold wu1; rw [hr, hfw, hwu, h1, hpre]
  exact ⟨h1, h2, h3, by unfold stops; rw [h2, h3, hfw]⟩

theorem preRun_good {c : PCfg} {s : PState} {f : Faults} (hg : Good c s) (hf : f.mWriteFail = 0) :
    (preRun (pre s) f).2.1 = true := by
  obtain ⟨lo, _, hh⟩ := good_history hg
  simp only [preRun, hh, hf, preTrigger_ok]

/-- no write fault is dictated, none is observed: an instance of `step_failsAs` -/
theorem step_mwf (c : PCfg) (s : PState) (e : Ev) (hf : e.faults.mWriteFail = 0) :
    mwf (PState.step c s e).2 = false := by
  rw [mwf, List.any_eq_false]
  intro o ho
  split
  · next id => simpa [Faults.allows, hf] using step_fail_dictated c s e .motion (.write id) ho
  · exact Bool.false_ne_true

theorem step_frame_motion (c : PCfg) (s : PState) (motion : Bool) (f : Faults) :
    hasStop (PState.step c s (.frame motion f)).2 = hasStop (process c (pre s) motion f).2 ∧
    hasStartOk (PState.step c s (.frame motion f)).2 = hasStartOk (process c (pre s) motion f).2 ∧
    hasCan (PState.step c s (.frame motion f)).2 = hasCan (process c (pre s) motion f).2 ∧
    hasStartAny (PState.step c s (.frame motion f)).2 = hasStartAny (process c (pre s) motion f).2 ∧
    (PState.step c s (.frame motion f)).1.isRec = (process c (pre s) motion f).1.isRec ∧
    (PState.step c s (.frame motion f)).1.framesWritten = (process c (pre s) motion f).1.framesWritten ∧
    (PState.step c s (.frame motion f)).1.writeUntil = (process c (pre s) motion f).1.writeUntil ∧
    (PState.step c s (.frame motion f)).1.triggered = (process c (pre s) motion f).1.triggered ∧
    (PState.step c s (.frame motion f)).1.ring = (process c (pre s) motion f).1.ring := by
  obtain ⟨a1, a2, a3, a4, _⟩ := constObs_silent c s.crFrames s.n f
  obtain ⟨b1, b2, b3, b4, _⟩ := testObs_silent c s s.n f
  rw [step_frame]
  simp [a1, a2, a3, a4, b1, b2, b3, b4]

namespace P03

/-- one accepted frame, start to end, in terms of the summary functions -/
theorem frame_summary (c : PCfg) (s : PState) (motion : Bool) (f : Faults) :
    hasStartOk (PState.step c s (.frame motion f)).2 = starts c (pre s) motion f ∧
    hasStop (PState.step c s (.frame motion f)).2 = stops c (pre s) motion f ∧
    (PState.step c s (.frame motion f)).1.isRec = (rec1 c (pre s) motion f && !stops c (pre s) motion f) ∧
    (PState.step c s (.frame motion f)).1.triggered =
      (if stops c (pre s) motion f then 0 else if motion then s.triggered + 1 else 0) ∧
    (PState.step c s (.frame motion f)).1.framesWritten =
      (if rec1 c (pre s) motion f then (if stops c (pre s) motion f then 0 else s.framesWritten + 1)
       else s.framesWritten) ∧
    (PState.step c s (.frame motion f)).1.writeUntil =
      (if rec1 c (pre s) motion f then (if stops c (pre s) motion f then 0 else wu1 c (pre s) motion f)
       else s.writeUntil) := by
  obtain ⟨f1, f2, _, _, f6, f7, f8, f9, _⟩ := step_frame_motion c s motion f
  obtain ⟨p1, _, _, p4, p5, p6, p7, p8, _⟩ := process_summary c (pre s) motion f
  exact ⟨f2.trans p1, f1.trans p4, f6.trans p5, f9.trans p6, f7.trans p7, f8.trans p8⟩

/-- … and which gates the frame consults -/
theorem frame_consults (c : PCfg) (s : PState) (motion : Bool) (f : Faults) :
    hasCan (PState.step c s (.frame motion f)).2 = (attempt c s motion && f.win) ∧
    hasStartAny (PState.step c s (.frame motion f)).2 = (attempt c s motion && f.win && f.can) :=
  ⟨(step_frame_motion c s motion f).2.2.1.trans (process_summary c (pre s) motion f).2.1,
   (step_frame_motion c s motion f).2.2.2.1.trans (process_summary c (pre s) motion f).2.2.1⟩

/-- a frame written to a recording (one that is open or starts): `wu1` decides whether it is the last -/
theorem frame_rec (c : PCfg) (s : PState) (motion : Bool) (f : Faults) (hR : rec1 c (pre s) motion f = true) :
    hasStop (PState.step c s (.frame motion f)).2 = decide (wu1 c (pre s) motion f ≤ s.framesWritten + 1) ∧
    (PState.step c s (.frame motion f)).1.isRec = !decide (wu1 c (pre s) motion f ≤ s.framesWritten + 1) ∧
    (PState.step c s (.frame motion f)).1.framesWritten =
      (if wu1 c (pre s) motion f ≤ s.framesWritten + 1 then 0 else s.framesWritten + 1) ∧
    (PState.step c s (.frame motion f)).1.writeUntil =
      (if wu1 c (pre s) motion f ≤ s.framesWritten + 1 then 0 else wu1 c (pre s) motion f) := by
  obtain ⟨_, h2, h3, _, h5, h6⟩ := frame_summary c s motion f
  have hst : stops c (pre s) motion f = decide (wu1 c (pre s) motion f ≤ s.framesWritten + 1) := by
    rw [stops, hR]; rfl
  rw [h2, h3, h5, h6, hR, hst]
  simp

/-- a frame while no recording is open and none starts -/
theorem frame_idle (c : PCfg) (s : PState) (motion : Bool) (f : Faults) (hR : rec1 c (pre s) motion f = false) :
    (PState.step c s (.frame motion f)).1.isRec = false ∧
    (PState.step c s (.frame motion f)).1.triggered = (if motion then s.triggered + 1 else 0) ∧
    (PState.step c s (.frame motion f)).1.framesWritten = s.framesWritten ∧
    (PState.step c s (.frame motion f)).1.writeUntil = s.writeUntil := by
  obtain ⟨_, _, h3, h4, h5, h6⟩ := frame_summary c s motion f
  have hst : stops c (pre s) motion f = false := by rw [stops, hR]; rfl
  rw [h3, h4, h5, h6, hR, hst]
  simp

/-- the ring after an accepted frame, with its mark: the frame is in, and a stop moves the mark past it -/
theorem rbase_frame {c : PCfg} {s : PState} {mark : Nat} (motion : Bool) (f : Faults)
    (hb : RBase c.K s.ring s.n mark) :
    RBase c.K (PState.step c s (.frame motion f)).1.ring (s.n + 1)
      (if hasStop (PState.step c s (.frame motion f)).2 then s.n + 1 else mark) := by
  rw [(frame_summary c s motion f).2.1]
  rw [(step_frame_motion c s motion f).2.2.2.2.2.2.2.2, (process_summary c (pre s) motion f).2.2.2.2.2.2.2.2]
  split
  · exact rbase_mark (rbase_accept hb)
  · exact rbase_accept hb

end P03

/-- while no recording is open, the two counters of a recording are zero (every reachable state) -/
def Idle0 (s : PState) : Prop := s.isRec = false → s.framesWritten = 0 ∧ s.writeUntil = 0

theorem idle0_step (c : PCfg) (s : PState) (e : Ev) (h : Idle0 s) : Idle0 (PState.step c s e).1 := by
  cases e with
  | frame m f =>
    intro hr
    cases hR : rec1 c (pre s) m f
    · obtain ⟨_, _, h5, h6⟩ := frame_idle c s m f hR
      rw [h5, h6]
      exact h (Bool.or_eq_false_iff.mp hR).1
    · obtain ⟨_, h3, h5, h6⟩ := frame_rec c s m f hR
      have hd : wu1 c (pre s) m f ≤ s.framesWritten + 1 := by simpa [h3] using hr
      rw [h5, h6, if_pos hd, if_pos hd]
      exact ⟨rfl, rfl⟩
  | bad f => rw [step_bad]; split; exact fun _ => ⟨rfl, rfl⟩; exact h
  | reset f => rw [step_reset]; split; exact fun _ => ⟨rfl, rfl⟩; exact h
  | testReq => exact h

end TR
