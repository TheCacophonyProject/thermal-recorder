import Proofs.ProcObs
/-!
# Proofs.ProcC01 — product invariant of the processor model and the C01/C02 monitor

`PInv K s m` relates a model state `s` and the monitor state `m` between two events: both have counted the same
frames, and `Core` holds — the monitor has reported nothing and the ring refines the accepted-frame sequence
(`RBase`, with some mark), where the mark is the monitor's `nextFree` if no recording is open, and the last id
written is `s.n - 1` with `nextFree = s.n` if one is.  `pinv_step` shows it is preserved by every event that does
not dictate a failing motion-sink write (`process_spec` for the motion path of a frame).  For `Props.C02`:
`processFrame_start` gives the exact observations of an event on which a recording starts, and the last section
(`bumpFree`, `trace_nextFree`) shows that the monitor's `nextFree` is a function of the motion-sink writes alone.
-/
namespace TR
namespace P01
open PState P03

/-- a successful motion-sink write -/
abbrev W (id : Nat) : Obs := Obs.call .motion (.write id) true

theorem obs_md (K : Nat) (m : M12) : M12.obs K m .md = m := rfl
theorem obs_rs (K : Nat) (m : M12) : M12.obs K m .rs = m := rfl
theorem obs_re (K : Nat) (m : M12) : M12.obs K m .re = m := rfl
theorem obs_panic (K : Nat) (m : M12) : M12.obs K m .panic = m := rfl
theorem obs_can (K : Nat) (m : M12) (ok : Bool) : M12.obs K m (.call .motion .can ok) = m := rfl
theorem obs_start_ok (K : Nat) (m : M12) :
    M12.obs K m (.call .motion .start true) = { m with openRec := true, last := none } := rfl
theorem obs_start_fail (K : Nat) (m : M12) : M12.obs K m (.call .motion .start false) = m := rfl
theorem obs_stop (K : Nat) (m : M12) (ok : Bool) :
    M12.obs K m (.call .motion .stop ok) = { m with openRec := false } := rfl

/-- calls on the continuous-recorder or test-recording sink -/
def offMotion : Obs → Bool
  | .call .const _ _ => true
  | .call .test _ _ => true
  | _ => false

theorem obs_off (K : Nat) (m : M12) (o : Obs) (h : offMotion o = true) : M12.obs K m o = m := by
  cases o with
  | call s cl ok =>
    cases s with
    | motion => exact absurd h (by simp [offMotion])
    | _ => cases cl <;> cases ok <;> rfl
  | _ => exact absurd h (by simp [offMotion])

theorem isWrite_off (o : Obs) (h : offMotion o = true) : o.isWrite .motion = none := by
  cases o with
  | call s cl ok =>
    cases s with
    | motion => exact absurd h (by simp [offMotion])
    | _ => cases cl <;> simp [Obs.isWrite]
  | _ => rfl

theorem offMotion_iff (o : Obs) :
    offMotion o = true ↔ ∃ cl ok, o = Obs.call .const cl ok ∨ o = Obs.call .test cl ok := by
  cases o with
  | call s cl ok => cases s <;> simp [offMotion]
  | _ => simp [offMotion]

theorem fold_keeps {σ : Type} (K : Nat) (π : M12 → σ) (P : Obs → Prop)
    (h : ∀ m o, P o → π (M12.obs K m o) = π m) :
    ∀ (os : List Obs) (m : M12), (∀ o ∈ os, P o) → π (os.foldl (M12.obs K) m) = π m := by
  intro os
  induction os with
  | nil => intro m _; rfl
  | cons o os ih =>
    intro m hp
    rw [List.foldl_cons, ih _ fun o' ho' => hp o' (List.mem_cons_of_mem _ ho'), h m o (hp o (List.mem_cons_self ..))]

theorem fold_off (K : Nat) (os : List Obs) (m : M12) (h : os.all offMotion = true) :
    os.foldl (M12.obs K) m = m :=
  fold_keeps K id (offMotion · = true) (obs_off K) os m (List.all_eq_true.1 h)

/-- an acceptable write: contiguous inside a recording, or the C02 boundary at its start -/
theorem obs_write_eq (K : Nat) (m : M12) (id : Nat) (ok : Bool) (hf : m.fails = [])
    (h : match m.last with
         | some l => id = l + 1
         | none => id = max (m.cur + 1 - K) m.nextFree) :
    M12.obs K m (.call .motion (.write id) ok) =
      { m with last := some id, nextFree := max m.nextFree (id + 1) } := by
  obtain ⟨o, cu, n, last, nf, t, fails⟩ := m
  simp only at hf h
  subst hf
  cases last with
  | some l =>
    simp only at h
    simp [M12.obs, h]
  | none =>
    simp only at h
    have h1 : ¬ id < nf := by omega
    simp [M12.obs, ← h, h1]

theorem obs_n (K : Nat) (m : M12) (o : Obs) : (M12.obs K m o).n = m.n := by
  cases o with
  | call s cl ok => cases s <;> cases cl <;> cases ok <;> rfl
  | _ => rfl

theorem obs_cur (K : Nat) (m : M12) (o : Obs) : (M12.obs K m o).cur = m.cur := by
  cases o with
  | call s cl ok => cases s <;> cases cl <;> cases ok <;> rfl
  | _ => rfl

theorem fold_n (K : Nat) (os : List Obs) (m : M12) : (os.foldl (M12.obs K) m).n = m.n :=
  fold_keeps K (·.n) (fun _ => True) (fun m o _ => obs_n K m o) os m fun _ _ => trivial

theorem fold_cur (K : Nat) : ∀ (os : List Obs) (m : M12), (os.foldl (M12.obs K) m).cur = m.cur :=
  fun os m => fold_keeps K (·.cur) (fun _ => True) (fun m o _ => obs_cur K m o) os m fun _ _ => trivial

/-- contiguous continuation `l+1, l+2, …, l+len`, read on the three fields the invariant looks at -/
theorem fold_writes_cont (K : Nat) : ∀ (len : Nat) (m : M12) (l : Nat),
    m.fails = [] → m.last = some l → m.nextFree = l + 1 →
    (((List.range' (l + 1) len).map W).foldl (M12.obs K) m).fails = [] ∧
    (((List.range' (l + 1) len).map W).foldl (M12.obs K) m).last = some (l + len) ∧
    (((List.range' (l + 1) len).map W).foldl (M12.obs K) m).nextFree = l + len + 1 := by
  intro len
  induction len with
  | zero => intro m l h1 h2 h3; exact ⟨h1, h2, h3⟩
  | succ len ih =>
    intro m l h1 h2 h3
    rw [List.range'_succ, List.map_cons, List.foldl_cons, obs_write_eq K m (l + 1) true h1 (by rw [h2]),
      show l + (len + 1) = l + 1 + len by omega]
    exact ih _ (l + 1) h1 rfl (by show max m.nextFree (l + 1 + 1) = _; omega)

/-- a whole run `lo, …, lo+len` from the start of a recording -/
theorem fold_writes_first (K : Nat) (len : Nat) (m : M12) (lo : Nat)
    (hf : m.fails = []) (hl : m.last = none) (hlo : lo = max (m.cur + 1 - K) m.nextFree) :
    (((List.range' lo (len + 1)).map W).foldl (M12.obs K) m).fails = [] ∧
    (((List.range' lo (len + 1)).map W).foldl (M12.obs K) m).last = some (lo + len) ∧
    (((List.range' lo (len + 1)).map W).foldl (M12.obs K) m).nextFree = lo + len + 1 := by
  rw [List.range'_succ, List.map_cons, List.foldl_cons, obs_write_eq K m lo true hf (by rw [hl]; exact hlo)]
  exact fold_writes_cont K len _ lo hf rfl (by show max m.nextFree (lo + 1) = _; omega)

/-- the calls of the continuous and the test recorder are invisible to the monitor -/
theorem cycleObs_off {k : Sink} (hk : k ≠ .motion) (id : Nat) (wasOpen starting sOk wOk full eOk : Bool) :
    (cycleObs k id wasOpen starting sOk wOk full eOk).all offMotion = true :=
  List.all_eq_true.2 fun o ho => by
    obtain ⟨cl, ok, rfl⟩ := cycleObs_calls _ _ _ _ _ _ _ _ o ho
    cases k <;> first | exact absurd rfl hk | rfl

/-- The motion-sink writes of an event on which a recording starts, no write fault dictated:
`recordPreTriggerFrames` writes the history `lo … n` but for its last entry, the frame itself follows. -/
theorem start_writes {s : PState} {f : Faults} {lo n : Nat} (hf : f.mWriteFail = 0) (hlo : lo ≤ n)
    (hh : s.ring.history = some (List.range' lo (n + 1 - lo))) :
    (preRun s f).1 ++ [wObs n (preRun s f).2.2 f] = (List.range' lo (n + 1 - lo)).map W := by
  rw [show n + 1 - lo = (n - lo) + 1 by omega] at hh ⊢
  simp only [preRun, hh, hf, List.range'_concat, List.dropLast_concat, preTrigger_ok, List.map_append, Nat.one_mul,
    show lo + (n - lo) = n by omega]
  simp [wObs, hf, W]

/-- The invariant on the three things it depends on: the ring, the number of accepted frames and whether a
recording is open. -/
structure Core (K : Nat) (ring : Ring Nat) (n : Nat) (isRec : Bool) (m : M12) : Prop where
  fails : m.fails = []
  marked : ∃ mark, RBase K ring n mark ∧
    (isRec = true → m.last = some (n - 1) ∧ 1 ≤ n ∧ m.nextFree = n) ∧
    (isRec = false → mark = m.nextFree)

/-- model state `s` and monitor state `m` between two events -/
structure PInv (K : Nat) (s : PState) (m : M12) : Prop where
  frames : m.n = s.n
  core : Core K s.ring s.n s.isRec m

theorem core_congr {K : Nat} {ring : Ring Nat} {n : Nat} {isRec : Bool} {m m' : M12} (h : Core K ring n isRec m)
    (h4 : m'.fails = m.fails) (h5 : m'.last = m.last) (h6 : m'.nextFree = m.nextFree) : Core K ring n isRec m' := by
  refine ⟨h4.trans h.fails, ?_⟩
  rw [h5, h6]
  exact h.marked

theorem pinv_init (c : PCfg) (hK : 0 < c.K) : PInv c.K (PState.init c) {} :=
  ⟨rfl, rfl, 0, rbase_init c.K hK, fun h => by simp [PState.init] at h, fun _ => rfl⟩

theorem fold_startPre (K : Nat) (m : M12) :
    startPre.foldl (M12.obs K) m = { m with openRec := true, last := none } := rfl

theorem fold_stop (K : Nat) (m : M12) (ok : Bool) :
    [Obs.re, Obs.call .motion .stop ok].foldl (M12.obs K) m = { m with openRec := false } := rfl

/-- `stopRecording` keeps the invariant: the mark moves to `s.n` iff a recording was open -/
theorem core_stop (K : Nat) (s : PState) (m : M12) (b : Bool) (h : Core K s.ring s.n s.isRec m) :
    Core K (s.stopRecording b).1.ring (s.stopRecording b).1.n (s.stopRecording b).1.isRec
      ((s.stopRecording b).2.foldl (M12.obs K) m) := by
  obtain ⟨hfl, mark, hb, hrec, hnrec⟩ := h
  cases hr : s.isRec
  · rw [stopRecording_idle hr]; exact ⟨hfl, mark, hb, hrec, hnrec⟩
  · rw [stopRecording_rec hr, fold_stop]
    exact ⟨hfl, s.n, rbase_mark hb, fun h => by simp at h, fun _ => (hrec hr).2.2.symm⟩

/-- The end of `process` once frame `n` has been written to the open recording: `Move`, then the stop
test. -/
theorem core_pStop (K : Nat) {ring : Ring Nat} {n mark : Nat} (hb : RBase K ring n mark) (f : Faults) (x : PState)
    (hx : x.ring = ring.write n) (hr : x.isRec = true) (m : M12) (hfl : m.fails = [])
    (hl : m.last = some n) (hnf : m.nextFree = n + 1) :
    Core K (pStop f x).1.ring (n + 1) (pStop f x).1.isRec ((pStop f x).2.foldl (M12.obs K) m) := by
  rw [pStop_eq]
  split
  · rw [fold_stop]
    exact ⟨hfl, n + 1, by rw [show _ = (ring.write n).move.setAsOldest from congrArg (·.move.setAsOldest) hx]
                          exact rbase_mark (rbase_accept hb), fun h => by simp at h, fun _ => hnf.symm⟩
  · exact ⟨hfl, mark, by rw [show _ = (ring.write n).move from congrArg (·.move) hx]; exact rbase_accept hb,
      fun _ => ⟨hl, Nat.le_add_left .., hnf⟩, fun h => by rw [show _ = x.isRec from rfl, hr] at h; simp at h⟩

/-- `Core` survives the motion path: after `process` on frame `s.n` (already parsed into the current slot), with its
observations folded into the monitor, it holds again with `s.n + 1` accepted frames.  The three cases are those of
`process_cases`. -/
theorem process_spec (c : PCfg) (s : PState) (m : M12) (motion : Bool) (f : Faults)
    (hf : f.mWriteFail = 0) (hcur : m.cur = s.n) (h : Core c.K s.ring s.n s.isRec m) :
    Core c.K (process c (pre s) motion f).1.ring (s.n + 1) (process c (pre s) motion f).1.isRec
      ((process c (pre s) motion f).2.foldl (M12.obs c.K) m) := by
  obtain ⟨hfl, mark, hb, hrec, hnrec⟩ := h
  rcases process_cases c (pre s) motion f with ⟨hr, e⟩ | ⟨hr, _, q, hq, e⟩ | ⟨hr, _, _, e⟩ <;> rw [e]
  · -- a recording is open: one write, contiguous with `m.last`
    obtain ⟨h1, h2, h3⟩ := hrec hr
    have hmd : (if motion then [Obs.md] else []).foldl (M12.obs c.K) m = m := by cases motion <;> rfl
    rw [andThen_fst, andThen_snd, List.foldl_append, List.foldl_append, hmd, List.foldl_cons, List.foldl_nil,
      pre_n, obs_write_eq c.K m s.n _ hfl (by rw [h1]; exact (Nat.sub_add_cancel h2).symm)]
    refine core_pStop c.K hb f _ ?_ ?_ _ ?_ ?_ ?_
    · rfl
    · exact hr
    · exact hfl
    · rfl
    · show max m.nextFree (s.n + 1) = s.n + 1
      omega
  · -- none is open and none starts: no call that moves the monitor
    have hm : q.foldl (M12.obs c.K) m = m := by cases hq <;> rfl
    rw [hm]
    exact ⟨hfl, mark, rbase_accept hb, fun h => by rw [show _ = (pre s).isRec from rfl, hr] at h; simp at h, hnrec⟩
  · -- one starts: the writes are `lo, …, s.n` (`start_writes`), and `lo` is the C02 boundary the monitor demands
    have hlo : loOf c.K s.n mark = max (m.cur + 1 - c.K) m.nextFree := by
      rw [hcur, ← hnrec hr]; exact Nat.max_comm _ _
    have hle := loOf_le c.K s.n mark (rbase_size hb) (rbase_mark_le hb)
    have e2 : s.n + 1 - loOf c.K s.n mark = s.n - loOf c.K s.n mark + 1 := Nat.succ_sub hle
    rw [andThen_fst, andThen_snd, List.append_assoc, pre_n, start_writes (s := pre s) hf hle (rbase_history hb),
      List.foldl_append, List.foldl_append, fold_startPre, e2]
    obtain ⟨a1, a2, a3⟩ := fold_writes_first c.K _ { m with openRec := true, last := none } _ hfl rfl hlo
    rw [Nat.add_sub_cancel' hle] at a2 a3
    exact core_pStop c.K hb f _ rfl rfl _ a1 a2 a3

/-- the monitor state at the start of an event, before its observations are folded in -/
def mpre (m : M12) (b : Bool) : M12 :=
  let m := if b then { m with tainted := true } else m
  { m with cur := m.n }

theorem step_eq (K : Nat) (m : M12) (st : Step) :
    M12.step K m st =
      (if st.ev.isFrame then
        { st.obs.foldl (M12.obs K) (mpre m st.motionWriteFault) with
          n := (st.obs.foldl (M12.obs K) (mpre m st.motionWriteFault)).n + 1 }
       else st.obs.foldl (M12.obs K) (mpre m st.motionWriteFault)) := rfl

theorem mpre_cur (m : M12) (b : Bool) : (mpre m b).cur = m.n := by cases b <;> rfl
theorem mpre_n (m : M12) (b : Bool) : (mpre m b).n = m.n := by cases b <;> rfl
theorem mpre_nextFree (m : M12) (b : Bool) : (mpre m b).nextFree = m.nextFree := by cases b <;> rfl

theorem pinv_step (c : PCfg) (s : PState) (m : M12) (ev : Ev)
    (hf : ev.faults.mWriteFail = 0) (h : PInv c.K s m) :
    PInv c.K (PState.step c s ev).1 (M12.step c.K m ⟨ev, (PState.step c s ev).2⟩) := by
  obtain ⟨hn, hc⟩ := h
  rw [step_eq]
  generalize Step.motionWriteFault _ = b
  have hc : Core c.K s.ring s.n s.isRec (mpre m b) := by cases b <;> exact core_congr hc rfl rfl rfl
  refine ⟨?_, ?_⟩
  · -- both count the accepted frames
    rw [step_n]
    split <;> simp only [fold_n, mpre_n, hn, Nat.add_zero]
  cases ev with
  | frame motion f =>
    have hp := process_spec c s (mpre m b) motion f hf (by rw [mpre_cur, hn]) hc
    simp only [Ev.isFrame, if_true, step_frame, List.foldl_append, constObs, testObs,
      fold_off c.K _ _ (cycleObs_off (k := .const) (by decide) ..),
      fold_off c.K _ _ (cycleObs_off (k := .test) (by decide) ..)]
    exact core_congr hp rfl rfl rfl
  | bad f =>
    have hp := core_stop c.K { s with ring := s.ring.write garbage } (mpre m b) f.mStop
      (by obtain ⟨hfl, mark, hb, h⟩ := hc; exact ⟨hfl, mark, rbase_write garbage hb, h⟩)
    simp only [Ev.isFrame, Bool.false_eq_true, if_false, PState.step, processBad, andThen_fst, andThen_snd,
      stopConstantRecorder_eq, List.foldl_append]
    cases c.constOn
    · exact hp
    · exact core_congr hp rfl rfl rfl
  | reset f => exact core_stop c.K s (mpre m b) f.mStop hc
  | testReq => exact hc

theorem pinv_trace (c : PCfg) (evs : List Ev) (s : PState) (m : M12)
    (hw : ∀ ev ∈ evs, ev.faults.mWriteFail = 0) (h : PInv c.K s m) :
    PInv c.K (PState.after c s evs) ((PState.trace c s evs).foldl (M12.step c.K) m) :=
  trace_fold_inv c (M12.step c.K) (PInv c.K) (·.faults.mWriteFail = 0) (pinv_step c) evs s m hw h

/-! ## the observations of an event that starts a recording (for C02) -/

theorem pStop_obs (f : Faults) (s : PState) :
    (pStop f s).2 = [] ∨ (pStop f s).2 = [Obs.re, Obs.call .motion .stop f.mStop] := by
  rw [pStop_eq]; split
  · exact .inr rfl
  · exact .inl rfl

theorem processFrame_start (c : PCfg) (s : PState) (f : Faults) (lo : Nat)
    (hf : f.mWriteFail = 0) (hwin : f.win = true) (hcan : f.can = true) (hst : f.mStart = true)
    (hrec : s.isRec = false) (htr : c.trig ≤ s.triggered + 1)
    (hh : (s.ring.write s.n).history = some (List.range' lo (s.n + 1 - lo))) (hlo : lo ≤ s.n) :
    ∃ tail side : List Obs,
      (tail = [] ∨ tail = [Obs.re, Obs.call .motion .stop f.mStop]) ∧ side.all offMotion = true ∧
      (processFrame c s true f).2 = startPre ++ (List.range' lo (s.n + 1 - lo)).map W ++ tail ++ side := by
  have hs : starts c (pre s) true f = true := by simp [starts, attempt, hrec, htr, hwin, hcan, hst]
  rw [processFrame_parts]
  rcases process_cases c (pre s) true f with ⟨hr, _⟩ | ⟨_, hs', _⟩ | ⟨_, _, _, e⟩
  · rw [pre_isRec, hrec] at hr; cases hr
  · rw [hs] at hs'; cases hs'
  · refine ⟨?tail, constObs c s.crFrames s.n f ++ testObs c s s.n f, ?h1, ?h2, ?h3⟩
    case h3 =>
      rw [e, andThen_snd, List.append_assoc startPre, pre_n, start_writes (s := pre s) hf hlo hh,
        List.append_assoc]
    case h1 => exact pStop_obs f _
    case h2 => rw [List.all_append, constObs, testObs, cycleObs_off (by decide), cycleObs_off (by decide)]; rfl

/-! ## the monitor's `nextFree` is determined by the motion-sink writes alone -/

/-- one more than the largest id written to the motion sink -/
def bumpFree (a : Nat) (o : Obs) : Nat :=
  match o.isWrite .motion with
  | some (id, _) => max a (id + 1)
  | none => a

theorem obs_nextFree (K : Nat) (m : M12) (o : Obs) : (M12.obs K m o).nextFree = bumpFree m.nextFree o := by
  cases o with
  | call s cl ok => cases s <;> cases cl <;> cases ok <;> rfl
  | _ => rfl

theorem fold_nextFree (K : Nat) (os : List Obs) (m : M12) :
    (os.foldl (M12.obs K) m).nextFree = os.foldl bumpFree m.nextFree :=
  (List.foldl_hom M12.nextFree fun m o => (obs_nextFree K m o).symm).symm

theorem step_nextFree (K : Nat) (m : M12) (st : Step) :
    (M12.step K m st).nextFree = st.obs.foldl bumpFree m.nextFree := by
  rw [step_eq]
  split
  · show (st.obs.foldl (M12.obs K) (mpre m st.motionWriteFault)).nextFree = _
    rw [fold_nextFree, mpre_nextFree]
  · rw [fold_nextFree, mpre_nextFree]

theorem trace_nextFree (K : Nat) (tr : List Step) (m : M12) :
    (tr.foldl (M12.step K) m).nextFree = tr.foldl (fun a st => st.obs.foldl bumpFree a) m.nextFree :=
  (List.foldl_hom M12.nextFree fun m st => (step_nextFree K m st).symm).symm

end P01
end TR
