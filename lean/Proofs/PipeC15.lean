import Proofs.PipeC04
/-!
# Proofs.PipeC15 — the header of a motion file is the detector state at the frame that started it

C15, last clause, for the composed pipeline over whole histories with changing gates (`Proofs.PipeSim`).

Every step only extends the file list (`Ext`: new files at the head, old ones in place with their headers), so
a file's header is settled at the step that starts it, and motion file number `i` (`motionFile?`) keeps its
number.  The induction over the history (`stored_induct`, and `started_induct` for the forward direction) is
generic in `StepFact`, the two facts that differ between the unthrottled and the throttled pipeline (with
`minLenFrames ≥ 1` a base file is opened only by the upstream `StartRecording` call itself, with the
detector's threshold — `PipeThr.OneOp`, `oneOp_started`).
-/
namespace TR.PipeC15
open TR TR.C01Spec TR.PipeC04 TR.PipeLemmas TR.PipeSim

variable {F : FloatOps}

theorem mot_append (a b : List RecFile) : mot (a ++ b) = mot a ++ mot b := by
  simp only [mot, List.filter_append]

theorem mot_mem {fs : List RecFile} {f : RecFile} (h : f ∈ mot fs) : f ∈ fs := (List.mem_filter.mp h).1

theorem mem_mot {fs : List RecFile} {f : RecFile} (h : f ∈ fs) (hk : f.kind = .motion) : f ∈ mot fs :=
  List.mem_filter.mpr ⟨h, by simp [hk]⟩

/-- position-wise `FileLe` survives the restriction to motion files (the kind is part of the header) -/
theorem pw_mot : ∀ {a b : List RecFile}, PW a b → PW (mot a) (mot b)
  | [], [], _ => trivial
  | [], _ :: _, h => h.elim
  | _ :: _, [], h => h.elim
  | x :: xs, y :: ys, h => by
    have hk : x.kind = y.kind := h.1.1
    by_cases hx : x.kind = .motion
    · rw [mot_cons_motion _ _ hx, mot_cons_motion _ _ (hk ▸ hx)]
      exact ⟨h.1, pw_mot h.2⟩
    · rw [mot_cons_other _ _ hx, mot_cons_other _ _ (hk ▸ hx)]
      exact pw_mot h.2

theorem ext_mot {old new : List RecFile} (h : Ext old new) : Ext (mot old) (mot new) := by
  obtain ⟨added, upd, e, p⟩ := h
  exact ⟨mot added, mot upd, by rw [e, mot_append], pw_mot p⟩

theorem FileLe.hdr {a b : RecFile} (h : FileLe a b) :
    b.kind = a.kind ∧ b.thresh = a.thresh ∧ b.bg = a.bg ∧ b.bgSeeded = a.bgSeeded :=
  ⟨h.1.symm, h.2.1.symm, h.2.2.1.symm, h.2.2.2.1.symm⟩

/-- motion file number `i` of a pipeline state, counted from the oldest (the file list is newest-first) -/
def motionFile? (p : Pipe F) (i : Nat) : Option RecFile := (mot p.files).reverse[i]?

theorem motionFile?_lt {p : Pipe F} {i : Nat} {f : RecFile} (h : motionFile? p i = some f) : i < motionStarts p := by
  obtain ⟨hi, _⟩ := List.getElem?_eq_some_iff.mp h
  rw [motionStarts_eq]
  simpa using hi

theorem motionFile?_some {p : Pipe F} {i : Nat} (h : i < motionStarts p) : ∃ f, motionFile? p i = some f := by
  rw [motionStarts_eq] at h
  exact ⟨_, List.getElem?_eq_getElem (by simpa using h)⟩

theorem motionFile?_mem {p : Pipe F} {i : Nat} {f : RecFile} (h : motionFile? p i = some f) :
    f ∈ p.files ∧ f.kind = .motion := by
  have hm : f ∈ mot p.files := List.mem_reverse.mp (List.mem_of_getElem? h)
  exact ⟨mot_mem hm, mot_kind hm⟩

theorem mem_motionFile? {p : Pipe F} {f : RecFile} (h : f ∈ p.files) (hk : f.kind = .motion) :
    ∃ i, motionFile? p i = some f := by
  have hm : f ∈ (mot p.files).reverse := List.mem_reverse.mpr (mem_mot h hk)
  obtain ⟨i, hi, e⟩ := List.getElem_of_mem hm
  exact ⟨i, List.getElem?_eq_some_iff.mpr ⟨hi, e⟩⟩

theorem motionFile?_frames (p : Pipe F) (i : Nat) :
    (motionFiles p)[i]? = (motionFile? p i).map (·.frames) := by
  rw [motionFiles_eq, motionFile?, ← List.map_reverse, List.getElem?_map]

theorem step_files {old added upd : List RecFile} (hpw : PW old upd) (i : Nat) (f : RecFile)
    (h : (mot (added ++ upd)).reverse[i]? = some f) :
    (∃ f₀, (mot old).reverse[i]? = some f₀ ∧ FileLe f₀ f) ∨
    ((mot old).length ≤ i ∧ f ∈ added ∧ f.kind = .motion) := by
  have hpm := pw_mot hpw
  have hlen := PW.length_eq hpm
  rw [mot_append, List.reverse_append] at h
  by_cases hi : i < (mot old).length
  · left
    rw [List.getElem?_append_left (by simpa [← hlen] using hi)] at h
    obtain ⟨hi2, e⟩ := List.getElem?_eq_some_iff.mp h
    obtain ⟨_, hle⟩ := (Ext.of_PW hpm).reverse_getElem i hi
    refine ⟨_, List.getElem?_eq_getElem (by simpa using hi), ?_⟩
    rw [← e]
    exact hle
  · right
    have hi' : (mot upd).reverse.length ≤ i := by simp only [List.length_reverse]; omega
    rw [List.getElem?_append_right hi'] at h
    have hm : f ∈ mot added := List.mem_reverse.mp (List.mem_of_getElem? h)
    exact ⟨by omega, mot_mem hm, mot_kind hm⟩

theorem step_new_file {old added upd : List RecFile} (hpw : PW old upd) (h1 : (mot added).length = 1) :
    ∃ x, x ∈ added ∧ x.kind = .motion ∧ (mot (added ++ upd)).reverse[(mot old).length]? = some x := by
  have hlen := PW.length_eq (pw_mot hpw)
  obtain ⟨x, hm⟩ := List.length_eq_one_iff.mp h1
  have hx : x ∈ mot added := by rw [hm]; exact List.mem_singleton.mpr rfl
  refine ⟨x, mot_mem hx, mot_kind hx, ?_⟩
  rw [mot_append, List.reverse_append, hm, hlen,
    List.getElem?_append_right (by simp only [List.length_reverse]; exact Nat.le_refl _)]
  simp

theorem gop_ext (c : PipeCfg) (p : Pipe F) (g : GOp) : Ext p.files (Pipe.gop c p g).files := by
  obtain ⟨w, d, o⟩ := g
  cases o with
  | item it => exact item_ext (withGates c ⟨w, d, .item it⟩) p it
  | testReq => exact Ext.refl _

theorem fold_ext (c : PipeCfg) : ∀ (more : List GOp) (p : Pipe F), Ext p.files (more.foldl (Pipe.gop c) p).files := by
  intro more
  induction more with
  | nil => intro p; exact Ext.refl _
  | cons g more ih => intro p; exact Ext.trans (gop_ext c p g) (ih _)

theorem runG_ext (c : PipeCfg) (gs more : List GOp) : Ext (runG F c gs).files (runG F c (gs ++ more)).files := by
  rw [runG_append]
  exact fold_ext c more _

theorem motionFile?_ext {p q : Pipe F} (h : Ext p.files q.files) (i : Nat) (f₀ : RecFile)
    (h0 : motionFile? p i = some f₀) : ∃ f, motionFile? q i = some f ∧ FileLe f₀ f := by
  obtain ⟨hi, e⟩ := List.getElem?_eq_some_iff.mp h0
  have hi' : i < (mot p.files).length := by simpa using hi
  obtain ⟨h2, hle⟩ := (ext_mot h).reverse_getElem i hi'
  refine ⟨_, List.getElem?_eq_getElem h2, ?_⟩
  rw [← e]
  exact hle

theorem motionStarts_mono (c : PipeCfg) (gs more : List GOp) :
    motionStarts (runG F c gs) ≤ motionStarts (runG F c (gs ++ more)) := by
  rw [motionStarts_eq, motionStarts_eq]
  exact (ext_mot (runG_ext c gs more)).length_le

/-- the header of `f` is taken from the detector state `d` -/
def HdrAt (c : PipeCfg) (d : Det F) (f : RecFile) : Prop :=
  f.thresh = d.tempThresh ∧ f.bg = d.background c.det ∧ f.bgSeeded = d.bgSeeded

theorem HdrAt.of_le {c : PipeCfg} {d : Det F} {f g : RecFile} (h : HdrAt c d f) (hfg : FileLe f g) : HdrAt c d g := by
  obtain ⟨_, t, b, s⟩ := FileLe.hdr hfg
  exact ⟨t.trans h.1, b.trans h.2.1, s.trans h.2.2⟩

/-- motion file number `i`, with header `f`, was started at a step `g` of the history `gs = pre ++ g :: post`:
an accepted frame with both gates open, at which the number of motion files went from `i` to `i + 1`, and the
header is the detector state right after that frame -/
def StartedAt (F : FloatOps) (c : PipeCfg) (gs : List GOp) (i : Nat) (f : RecFile) : Prop :=
  ∃ (pre : List GOp) (g : GOp) (post : List GOp) (bytes : List Nat) (pix : Frame) (tel : Parse.Telemetry),
    gs = pre ++ g :: post ∧ g.op = .item (.frame bytes) ∧ parseItem c bytes = .ok pix tel ∧
    g.windowOpen = true ∧ g.diskOk = true ∧
    motionStarts (runG F c pre) = i ∧ motionStarts (Pipe.gop c (runG F c pre) g) = i + 1 ∧
    HdrAt c (detAfter c (runG F c pre) pix tel) f

theorem StartedAt.mono {c : PipeCfg} {gs : List GOp} {i : Nat} {f f' : RecFile} (h : StartedAt F c gs i f)
    (hle : FileLe f f') (more : List GOp) : StartedAt F c (gs ++ more) i f' := by
  obtain ⟨pre, g, post, bytes, pix, tel, e, h1, h2, h3, h4, h5, h6, h7⟩ := h
  exact ⟨pre, g, post ++ more, bytes, pix, tel, by rw [e, List.append_assoc, List.cons_append], h1, h2, h3, h4, h5,
    h6, h7.of_le hle⟩

/-- what the induction needs to know about one step `g` after the history `gs`: if it raises the number of motion
files, then by one, and it is an accepted frame with both gates open; and the motion files an accepted frame adds
carry the detector state right after that frame -/
def StepFact (F : FloatOps) (c : PipeCfg) : Prop :=
  ∀ (gs : List GOp) (g : GOp),
    (motionStarts (Pipe.gop c (runG F c gs) g) > motionStarts (runG F c gs) →
      motionStarts (Pipe.gop c (runG F c gs) g) = motionStarts (runG F c gs) + 1 ∧
      ∃ bytes pix tel, g.op = .item (.frame bytes) ∧ parseItem c bytes = .ok pix tel ∧
        g.windowOpen = true ∧ g.diskOk = true) ∧
    ∀ bytes pix tel, g.op = .item (.frame bytes) → parseItem c bytes = .ok pix tel →
      ∃ added upd, (Pipe.gop c (runG F c gs) g).files = added ++ upd ∧ PW (runG F c gs).files upd ∧
        ∀ f ∈ added, f.kind = .motion → HdrAt c (detAfter c (runG F c gs) pix tel) f

/-- **every motion file was started at some step of the history, and carries the detector state of that step** -/
theorem stored_induct (c : PipeCfg) (hstep : StepFact F c) :
    ∀ (gs : List GOp) (i : Nat) (f : RecFile), motionFile? (runG F c gs) i = some f → StartedAt F c gs i f := by
  intro gs
  induction gs using snoc_induction with
  | h0 => intro i f h; exact absurd (motionFile?_lt h) (Nat.not_lt_zero _)
  | hs gs g ih =>
    intro i f h
    have hlt := motionFile?_lt h
    rw [runG_snoc] at h hlt
    -- the file was there before the step, or the step started it
    have hold : ∀ {added upd : List RecFile}, (Pipe.gop c (runG F c gs) g).files = added ++ upd →
        PW (runG F c gs).files upd →
        StartedAt F c (gs ++ [g]) i f ∨ (motionStarts (runG F c gs) ≤ i ∧ f ∈ added ∧ f.kind = .motion) := by
      intro added upd hfiles hpw
      unfold motionFile? at h
      rw [hfiles] at h
      rcases step_files hpw i f h with ⟨f₀, h0, hle⟩ | hnew
      · exact .inl ((ih i f₀ h0).mono hle [g])
      · exact .inr hnew
    by_cases hgrow : motionStarts (Pipe.gop c (runG F c gs) g) > motionStarts (runG F c gs)
    · obtain ⟨hone, bytes, pix, tel, hop, hparse, hw, hd⟩ := (hstep gs g).1 hgrow
      obtain ⟨added, upd, hfiles, hpw, hhdr⟩ := (hstep gs g).2 bytes pix tel hop hparse
      rcases hold hfiles hpw with h | ⟨hge, hmem, hkind⟩
      · exact h
      · have hi : motionStarts (runG F c gs) = i := by omega
        exact ⟨gs, g, [], bytes, pix, tel, rfl, hop, hparse, hw, hd, hi, by rw [hone, hi], hhdr f hmem hkind⟩
    · obtain ⟨added, upd, hfiles, hpw⟩ := gop_ext c (runG F c gs) g
      rcases hold hfiles hpw with h | ⟨hge, _, _⟩
      · exact h
      · omega

/-- by membership instead of by number: a motion file of the final state has a number, and the step that started
the file with that number says which -/
theorem stored_of_mem {c : PipeCfg} {gs : List GOp} {f : RecFile}
    (hnth : ∀ i, motionFile? (runG F c gs) i = some f → StartedAt F c gs i f)
    (hf : f ∈ (runG F c gs).files) (hk : f.kind = .motion) :
    ∃ pre g post bytes pix tel,
      gs = pre ++ g :: post ∧ g.op = .item (.frame bytes) ∧ parseItem c bytes = .ok pix tel ∧
      g.windowOpen = true ∧ g.diskOk = true ∧
      motionStarts (Pipe.gop c (runG F c pre) g) = motionStarts (runG F c pre) + 1 ∧
      motionFile? (runG F c gs) (motionStarts (runG F c pre)) = some f ∧
      HdrAt c (detAfter c (runG F c pre) pix tel) f := by
  obtain ⟨i, hi⟩ := mem_motionFile? hf hk
  obtain ⟨pre, g, post, bytes, pix, tel, e, h1, h2, h3, h4, rfl, h6, h7⟩ := hnth i hi
  exact ⟨pre, g, post, bytes, pix, tel, e, h1, h2, h3, h4, h6, hi, h7⟩

/-- the forward direction: the file a step starts is there at the end of every continuation, with the detector
state of that step -/
theorem started_induct (c : PipeCfg) (hstep : StepFact F c) (pre : List GOp) (g : GOp) (post : List GOp)
    (bytes : List Nat) (pix : Frame) (tel : Parse.Telemetry)
    (hop : g.op = .item (.frame bytes)) (hparse : parseItem c bytes = .ok pix tel)
    (hgrow : motionStarts (Pipe.gop c (runG F c pre) g) > motionStarts (runG F c pre)) :
    ∃ f, motionFile? (runG F c (pre ++ g :: post)) (motionStarts (runG F c pre)) = some f ∧
      HdrAt c (detAfter c (runG F c pre) pix tel) f := by
  obtain ⟨hone, _⟩ := (hstep pre g).1 hgrow
  obtain ⟨added, upd, hfiles, hpw, hhdr⟩ := (hstep pre g).2 bytes pix tel hop hparse
  have h1 : (mot added).length = 1 := by
    have hl := PW.length_eq (pw_mot hpw)
    rw [motionStarts_eq, motionStarts_eq, hfiles, mot_append, List.length_append, ← hl] at hone
    omega
  obtain ⟨x, hx, hk, hidx⟩ := step_new_file hpw h1
  have h0 : motionFile? (runG F c (pre ++ [g])) (motionStarts (runG F c pre)) = some x := by
    rw [runG_snoc, motionStarts_eq]
    unfold motionFile?
    rw [hfiles]
    exact hidx
  obtain ⟨f, hf, hle⟩ := motionFile?_ext (runG_ext c (pre ++ [g]) post) _ x h0
  refine ⟨f, ?_, (hhdr x hx hk).of_le hle⟩
  rw [List.append_assoc, List.singleton_append] at hf
  exact hf

theorem gop_frame (c : PipeCfg) (p : Pipe F) (g : GOp) (bytes : List Nat) (hop : g.op = .item (.frame bytes)) :
    Pipe.gop c p g = Pipe.item (withGates c g) p (.frame bytes) := by
  unfold Pipe.gop
  rw [hop]
  rfl

open TR.PipeThr

/-- across the processor observations of a step: the detector is untouched, the old files keep their places and
headers, and every MOTION file added carries the header of that detector, threshold included (without the throttle
by `TStarted.of_started`, behind it — `minLen ≥ 1` — by `oneOp_started`) -/
def TStarted (c : PipeCfg) (p q : Pipe F) : Prop :=
  q.det = p.det ∧ ∃ added upd, q.files = added ++ upd ∧ PW p.files upd ∧
    ∀ f ∈ added, f.kind = .motion → HdrAt c p.det f

theorem TStarted.refl (c : PipeCfg) (p : Pipe F) : TStarted c p p :=
  ⟨rfl, [], p.files, rfl, PW.refl _, fun _ h => by cases h⟩

theorem TStarted.of_pw {c : PipeCfg} {p q : Pipe F} (hd : q.det = p.det) (hf : PW p.files q.files) : TStarted c p q :=
  ⟨hd, [], q.files, rfl, hf, fun _ h => by cases h⟩

theorem TStarted.trans {c : PipeCfg} {p q r : Pipe F} (h₁ : TStarted c p q) (h₂ : TStarted c q r) :
    TStarted c p r := by
  obtain ⟨d1, a1, u1, e1, p1, hd1⟩ := h₁
  obtain ⟨d2, a2, u2, e2, p2, hd2⟩ := h₂
  rw [e1] at p2
  exact ⟨d2.trans d1, e2 ▸ PW.ext_trans (P := fun f => f.kind = .motion → HdrAt c p.det f)
    (fun h hfg hk => (h (hfg.1 ▸ hk)).of_le hfg) p1 hd1 p2 (fun f hf hk => d1 ▸ hd2 f hf hk)⟩

/-- without the throttle every file started carries the detector's threshold -/
theorem TStarted.of_started {c : PipeCfg} {p q : Pipe F} (h : Started c p q) (hthr : c.throttle = false) :
    TStarted c p q :=
  let ⟨hd, _, added, upd, e, pw, h⟩ := h
  ⟨hd, added, upd, e, pw, fun f hf hk => ⟨(h f hf).thresh_off hthr hk, (h f hf).1, (h f hf).2.1⟩⟩

theorem unthr_frame_files (c : PipeCfg) (hthr : c.throttle = false) (p : Pipe F) (g : GOp) (bytes : List Nat)
    (pix : Frame) (tel : Parse.Telemetry) (hop : g.op = .item (.frame bytes))
    (hparse : parseItem c bytes = .ok pix tel) :
    ∃ added upd, (Pipe.gop c p g).files = added ++ upd ∧ PW p.files upd ∧
      ∀ f ∈ added, f.kind = .motion → HdrAt c (detAfter c p pix tel) f := by
  show ∃ added upd, (Pipe.op (withGates c g) p g.op).files = added ++ upd ∧ _
  rw [(op_shape (withGates c g) p g.op).2.1, hop, fed_ok (withGates c g) p bytes pix tel hparse]
  exact (TStarted.of_started (applyObs_fold_started (withGates c g) _ _) hthr).2

/-- with `minLen ≥ 1` one file operation adds a motion file only through the upstream `StartRecording` call,
with the detector's threshold -/
theorem oneOp_started (c : PipeCfg) (hM : 0 < c.minLenFrames) {p q : Pipe F} {o : Obs} (h : OneOp c p o q) :
    TStarted c p q := by
  cases h with
  | same q hf hd => exact TStarted.of_pw hd (by rw [hf]; exact PW.refl _)
  | start q k t hf hd hk =>
    refine ⟨hd, [_], p.files, by rw [← hf]; rfl, PW.refl _, ?_⟩
    intro f hfm hkf
    rw [List.mem_singleton] at hfm
    subst hfm
    exact ⟨(hk hkf).2, by rw [← hd], by rw [← hd]⟩
  | write q k id hf hd => exact TStarted.of_pw hd (by rw [← hf]; exact writeFile_pw q k id)
  | stop q k hf hd => exact TStarted.of_pw hd (by rw [← hf]; exact stopFile_pw q k)
  | empty q hf hd hM0 => omega

/-- the threshold too, because a base file is opened only by the upstream start of this very frame -/
theorem thr_frame_files (c : PipeCfg) (hK : 0 < c.proc.K) (hthr : c.throttle = true) (hM : 0 < c.minLenFrames)
    (p : Pipe F) (evs : List Ev) (g : GOp) (h : Sim c p evs) (bytes : List Nat) (pix : Frame)
    (tel : Parse.Telemetry) (hop : g.op = .item (.frame bytes)) (hparse : parseItem c bytes = .ok pix tel) :
    ∃ added upd, (Pipe.gop c p g).files = added ++ upd ∧ PW p.files upd ∧
      ∀ f ∈ added, f.kind = .motion → HdrAt c (detAfter c p pix tel) f := by
  -- the hypotheses about `c` serve for `withGates c g` as in `PipeC04.motionStarts_gop_thr`
  have hb := (ti_op (withGates c g) hK hthr (fun p _ q => TStarted (withGates c g) p q) (TStarted.refl _)
    (fun _ _ _ _ _ h1 h2 => (oneOp_started (withGates c g) hM h1).trans h2) p evs g.op h.proc (h.thr hthr)).2
  show ∃ added upd, (Pipe.op (withGates c g) p g.op).files = added ++ upd ∧ _
  rw [(op_shape (withGates c g) p g.op).2.1]
  rw [hop, fed_ok (withGates c g) p bytes pix tel hparse] at hb ⊢
  exact hb.2

theorem not_both (c : PipeCfg) (pre pre' post post' : List GOp) (g g' : GOp) (i : Nat)
    (e : pre ++ g :: post = pre' ++ g' :: post')
    (h2 : motionStarts (Pipe.gop c (runG F c pre) g) = i + 1) (h1' : motionStarts (runG F c pre') = i) :
    ¬ pre.length < pre'.length := by
  intro hl
  obtain ⟨mid, hm⟩ := split_longer pre pre' post post' g g' e hl
  have := motionStarts_mono (F := F) c (pre ++ [g]) mid
  rw [runG_snoc, List.append_assoc, List.singleton_append, ← hm] at this
  omega

theorem start_step_unique (c : PipeCfg) (pre pre' post post' : List GOp) (g g' : GOp) (i : Nat)
    (e : pre ++ g :: post = pre' ++ g' :: post')
    (h1 : motionStarts (runG F c pre) = i) (h2 : motionStarts (Pipe.gop c (runG F c pre) g) = i + 1)
    (h1' : motionStarts (runG F c pre') = i) (h2' : motionStarts (Pipe.gop c (runG F c pre') g') = i + 1) :
    pre = pre' ∧ g = g' ∧ post = post' := by
  have a := not_both c pre pre' post post' g g' i e h2 h1'
  have b := not_both c pre' pre post' post g' g i e.symm h2' h1
  have hl : pre.length = pre'.length := by omega
  obtain ⟨e1, e2⟩ := List.append_inj e hl
  injection e2 with e3 e4
  exact ⟨e1, e3, e4⟩

end TR.PipeC15
