import Proofs.PipeThr
/-!
# Proofs.PipeSim — the composed pipeline simulates the processor model

* `GOp`, `runG`: a history of steps of the pipeline, each with the window / disk gates of the moment (the daemon
  re-reads them between frames; `Pipe.faults` is the only place they are read); `Pipe.evOf`, `evsG`: the
  processor events the history induces;
* `op_eq`: one step of the pipeline is the processor model's step on the induced event, with its
  observations applied in order to the files (and the throttle);
* `Induced`, `krel_op`, `ti_op`: what one step keeps — the processor component is the model's after the event
  list, and as many frames are accepted as the list has frame events; the files of the continuous and of the test
  sink mirror the calls on that sink, and so do the motion files with the throttle off (`KRel`); with it on they
  obey `TInv`;
* `Sim` / `sim_runG`: all of it after every history, throttle on or off; a fixed configuration is the history
  whose gates never change (`foldl_op_eq_runG`).  `PIE` (`pie_pi`, `pie_iff`, `pie_of_fold`) restates its part for
  the motion files without the throttle over `C01Spec.PI` / `FRel`; no other proof rests on these four.
-/
namespace TR.PipeC04
open TR TR.C01Spec

/-- one step of the daemon with the gates as they are at that moment -/
structure GOp where
  windowOpen : Bool
  diskOk : Bool
  op : PipeOp

/-- the configuration with the gates of the moment -/
def withGates (c : PipeCfg) (g : GOp) : PipeCfg := { c with windowOpen := g.windowOpen, diskOk := g.diskOk }

/-- the fault record the pipeline hands to the processor at this step: the two gates, nothing else fails -/
def gfaults (g : GOp) : Faults := { win := g.windowOpen, can := g.diskOk }

variable {F : FloatOps}

/-- one step of the pipeline with the gates of the moment -/
def Pipe.gop (c : PipeCfg) (p : Pipe F) (g : GOp) : Pipe F := Pipe.op (withGates c g) p g.op

/-- the pipeline after a history of steps, each with its own gates -/
def runG (F : FloatOps) (c : PipeCfg) (gs : List GOp) : Pipe F := gs.foldl (Pipe.gop c) (Pipe.init F c)

/-- the processor event one pipeline step induces, for a fixed configuration -/
def Pipe.evOfOp (c : PipeCfg) (p : Pipe F) : PipeOp → Ev
  | .testReq => .testReq
  | .item .clear => .reset (Pipe.faults c)
  | .item (.frame bytes) =>
    match parseItem c bytes with
    | .bad _ _ => .bad (Pipe.faults c)
    | .ok pix tel => .frame (verdict c p pix tel) (Pipe.faults c)

/-- the processor event one step induces, with the gates of the moment -/
def Pipe.evOf (c : PipeCfg) (p : Pipe F) (g : GOp) : Ev := Pipe.evOfOp (withGates c g) p g.op

/-- the events induced by a list of steps from pipeline state `p` -/
def evsFrom (c : PipeCfg) : Pipe F → List GOp → List Ev
  | _, [] => []
  | p, g :: gs => Pipe.evOf c p g :: evsFrom c (Pipe.gop c p g) gs

/-- the processor events induced by a whole history -/
def evsG (F : FloatOps) (c : PipeCfg) (gs : List GOp) : List Ev := evsFrom c (Pipe.init F c) gs

/-! ### the gates touch nothing but `Pipe.faults` -/

theorem withGates_proc (c : PipeCfg) (g : GOp) : (withGates c g).proc = c.proc := rfl
theorem withGates_det (c : PipeCfg) (g : GOp) : (withGates c g).det = c.det := rfl
theorem withGates_faults (c : PipeCfg) (g : GOp) : Pipe.faults (withGates c g) = gfaults g := rfl
theorem withGates_parse (c : PipeCfg) (g : GOp) (bytes : List Nat) :
    parseItem (withGates c g) bytes = parseItem c bytes := rfl
theorem withGates_verdict {F : FloatOps} (c : PipeCfg) (g : GOp) (p : Pipe F) (pix : Frame) (tel : Parse.Telemetry) :
    verdict (withGates c g) p pix tel = verdict c p pix tel := rfl

theorem evOfOp_testReq (c : PipeCfg) (p : Pipe F) : Pipe.evOfOp c p .testReq = .testReq := rfl

theorem evOfOp_bad (c : PipeCfg) (p : Pipe F) (bytes : List Nat) (y x : Nat)
    (h : parseItem c bytes = .bad y x) : Pipe.evOfOp c p (.item (.frame bytes)) = .bad (Pipe.faults c) := by
  simp only [Pipe.evOfOp, h]

theorem evOfOp_ok (c : PipeCfg) (p : Pipe F) (bytes : List Nat) (pix : Frame) (tel : Parse.Telemetry)
    (h : parseItem c bytes = .ok pix tel) :
    Pipe.evOfOp c p (.item (.frame bytes)) = .frame (verdict c p pix tel) (Pipe.faults c) := by
  simp only [Pipe.evOfOp, h]

/-- the fault record of an induced event is `Pipe.faults c` — the two gates, nothing else fails; a test request
carries none.  What is known of the faults of induced events (`PipeEv`, `cleanEv`, `C01.NoWriteFaults`) comes from
here. -/
theorem evOfOp_faults (c : PipeCfg) (p : Pipe F) (o : PipeOp) :
    o = .testReq ∨ (Pipe.evOfOp c p o).faults = Pipe.faults c := by
  cases o with
  | testReq => exact .inl rfl
  | item it =>
    refine .inr ?_
    cases it with
    | clear => rfl
    | frame bytes => simp only [Pipe.evOfOp]; cases parseItem c bytes <;> rfl

theorem evOfOp_pipeEv (c : PipeCfg) (p : Pipe F) (o : PipeOp) : PipeEv (Pipe.evOfOp c p o) := by
  rcases evOfOp_faults c p o with rfl | h
  · exact ⟨rfl, rfl⟩
  · rw [PipeEv, h]; exact ⟨rfl, rfl⟩

theorem runG_nil (c : PipeCfg) : runG F c [] = Pipe.init F c := rfl

theorem runG_snoc (c : PipeCfg) (gs : List GOp) (g : GOp) :
    runG F c (gs ++ [g]) = Pipe.gop c (runG F c gs) g := by
  simp only [runG, List.foldl_append, List.foldl_cons, List.foldl_nil]

theorem runG_append (c : PipeCfg) (gs more : List GOp) :
    runG F c (gs ++ more) = more.foldl (Pipe.gop c) (runG F c gs) := by
  simp only [runG, List.foldl_append]

theorem evsFrom_append (c : PipeCfg) : ∀ (a b : List GOp) (p : Pipe F),
    evsFrom c p (a ++ b) = evsFrom c p a ++ evsFrom c (a.foldl (Pipe.gop c) p) b := by
  intro a
  induction a with
  | nil => intro b p; rfl
  | cons g a ih => intro b p; simp only [List.cons_append, evsFrom, List.foldl_cons, ih]

theorem evsG_snoc (c : PipeCfg) (gs : List GOp) (g : GOp) :
    evsG F c (gs ++ [g]) = evsG F c gs ++ [Pipe.evOf c (runG F c gs) g] := by
  simp only [evsG, evsFrom_append, evsFrom, runG]

theorem evsG_append (c : PipeCfg) (a b : List GOp) :
    evsG F c (a ++ b) = evsG F c a ++ evsFrom c (runG F c a) b :=
  evsFrom_append c a b (Pipe.init F c)

theorem evsFrom_length (c : PipeCfg) : ∀ (gs : List GOp) (p : Pipe F), (evsFrom c p gs).length = gs.length := by
  intro gs
  induction gs with
  | nil => intro p; rfl
  | cons g gs ih => intro p; simp only [evsFrom, List.length_cons, ih]

theorem evsFrom_all (c : PipeCfg) (P : Ev → Prop) (h : ∀ (p : Pipe F) g, P (Pipe.evOf c p g)) :
    ∀ (gs : List GOp) (p : Pipe F), ∀ e ∈ evsFrom c p gs, P e := by
  intro gs
  induction gs with
  | nil => intro p e he; cases he
  | cons g gs ih =>
    intro p e he
    simp only [evsFrom, List.mem_cons] at he
    rcases he with rfl | he
    · exact h p g
    · exact ih _ e he

theorem evsG_length (c : PipeCfg) (gs : List GOp) : (evsG F c gs).length = gs.length := evsFrom_length c gs _

theorem evsG_drop (c : PipeCfg) (a b : List GOp) :
    (evsG F c (a ++ b)).drop a.length = evsFrom c (runG F c a) b := by
  rw [evsG_append, ← evsG_length (F := F) c a, List.drop_left]

theorem runG_take_succ (c : PipeCfg) (gs : List GOp) (i : Nat) (h : i < gs.length) :
    runG F c (gs.take (i + 1)) = Pipe.gop c (runG F c (gs.take i)) gs[i] := by
  rw [← List.take_append_getElem h, runG_snoc]

theorem evsFrom_getElem (c : PipeCfg) : ∀ (gs : List GOp) (p : Pipe F) (i : Nat) (h : i < gs.length),
    (evsFrom c p gs)[i]'(by rw [evsFrom_length]; exact h) =
      Pipe.evOf c ((gs.take i).foldl (Pipe.gop c) p) gs[i] := by
  intro gs
  induction gs with
  | nil => intro p i h; exact absurd h (Nat.not_lt_zero _)
  | cons g gs ih =>
    intro p i h
    cases i with
    | zero => rfl
    | succ i =>
      simp only [evsFrom, List.getElem_cons_succ, List.take_succ_cons, List.foldl_cons]
      exact ih _ i (Nat.lt_of_succ_lt_succ h)

theorem evsG_getElem (c : PipeCfg) (gs : List GOp) (i : Nat) (h : i < gs.length) :
    (evsG F c gs)[i]'(by rw [evsG_length]; exact h) = Pipe.evOf c (runG F c (gs.take i)) gs[i] :=
  evsFrom_getElem c gs _ i h

/-- the induced event, case by case: the faults are the gates of the moment -/
theorem evOf_cases (c : PipeCfg) (p : Pipe F) (g : GOp) :
    (g.op = .testReq ∧ Pipe.evOf c p g = .testReq) ∨
    (g.op = .item .clear ∧ Pipe.evOf c p g = .reset (gfaults g)) ∨
    (∃ bytes y x, g.op = .item (.frame bytes) ∧ parseItem c bytes = .bad y x ∧
      Pipe.evOf c p g = .bad (gfaults g)) ∨
    (∃ bytes pix tel, g.op = .item (.frame bytes) ∧ parseItem c bytes = .ok pix tel ∧
      Pipe.evOf c p g = .frame (verdict c p pix tel) (gfaults g)) := by
  obtain ⟨w, d, o⟩ := g
  cases o with
  | testReq => exact Or.inl ⟨rfl, rfl⟩
  | item it =>
    cases it with
    | clear => exact Or.inr (Or.inl ⟨rfl, rfl⟩)
    | frame bytes =>
      cases hres : parseItem c bytes with
      | bad y x =>
        exact Or.inr (Or.inr (Or.inl ⟨bytes, y, x, rfl, hres,
          evOfOp_bad (withGates c ⟨w, d, .item (.frame bytes)⟩) p bytes y x hres⟩))
      | ok pix tel =>
        exact Or.inr (Or.inr (Or.inr ⟨bytes, pix, tel, rfl, hres,
          evOfOp_ok (withGates c ⟨w, d, .item (.frame bytes)⟩) p bytes pix tel hres⟩))

theorem evOf_clear (c : PipeCfg) (p : Pipe F) (g : GOp) (hop : g.op = .item .clear) :
    Pipe.evOf c p g = .reset (gfaults g) := by
  show Pipe.evOfOp (withGates c g) p g.op = _
  rw [hop]
  rfl

theorem evOf_ok (c : PipeCfg) (p : Pipe F) (g : GOp) (bytes : List Nat) (pix : Frame) (tel : Parse.Telemetry)
    (hop : g.op = .item (.frame bytes)) (hparse : parseItem c bytes = .ok pix tel) :
    Pipe.evOf c p g = .frame (verdict c p pix tel) (gfaults g) := by
  show Pipe.evOfOp (withGates c g) p g.op = _
  rw [hop]
  exact evOfOp_ok (withGates c g) p bytes pix tel hparse

end TR.PipeC04

namespace TR.PipeSim
open TR TR.C01Spec TR.PipeC04 TR.PipeC17 TR.C17Spec TR.PipeThr

variable {F : FloatOps}

/-- the pipeline state the processor's observations are applied to: an accepted frame has gone through the
detector and is counted -/
def Pipe.fed (c : PipeCfg) (p : Pipe F) : PipeOp → Pipe F
  | .item (.frame bytes) =>
    match parseItem c bytes with
    | .ok pix tel =>
      { p with det := PipeC15.detAfter c p pix tel, accepted := { pix := pix, tel := tel } :: p.accepted }
    | .bad _ _ => p
  | _ => p

/-- the bookkeeping after the observations: a `clear` resets the detector, a rejected frame is counted -/
def Pipe.closeOp (q : Pipe F) : Ev → Pipe F
  | .reset _ => { q with det := q.det.reset, resets := q.resets + 1 }
  | .bad _ => { q with badFrames := q.badFrames + 1 }
  | _ => q

/-- **one pipeline step**: feed the detector, let the processor take the model's step on the induced event,
apply its observations in order, do the bookkeeping -/
theorem op_eq (c : PipeCfg) (p : Pipe F) (o : PipeOp) :
    Pipe.op c p o =
      Pipe.closeOp ((PState.step c.proc p.proc (Pipe.evOfOp c p o)).2.foldl (Pipe.applyObs c)
        { Pipe.fed c p o with proc := (PState.step c.proc p.proc (Pipe.evOfOp c p o)).1 }) (Pipe.evOfOp c p o) := by
  cases o with
  | testReq => rfl
  | item it =>
    cases it with
    | clear => rfl
    | frame bytes =>
      show Pipe.item c p (.frame bytes) = _
      cases hres : parseItem c bytes with
      | bad y x =>
        rw [PipeLemmas.item_bad c p bytes y x hres, evOfOp_bad c p bytes y x hres]
        simp only [Pipe.fed, hres]; rfl
      | ok pix tel =>
        rw [PipeLemmas.item_ok c p bytes pix tel hres, evOfOp_ok c p bytes pix tel hres]
        simp only [Pipe.fed, hres]; rfl

theorem fed_fields (c : PipeCfg) (p : Pipe F) (o : PipeOp) :
    (Pipe.fed c p o).files = p.files ∧ (Pipe.fed c p o).thr = p.thr ∧
    (Pipe.fed c p o).accepted.length = p.accepted.length + (if (Pipe.evOfOp c p o).isFrame then 1 else 0) := by
  cases o with
  | testReq => exact ⟨rfl, rfl, rfl⟩
  | item it =>
    cases it with
    | clear => exact ⟨rfl, rfl, rfl⟩
    | frame bytes =>
      cases hres : parseItem c bytes with
      | bad y x =>
        rw [evOfOp_bad c p bytes y x hres]
        refine ⟨?_, ?_, ?_⟩ <;> simp only [Pipe.fed, hres] <;> rfl
      | ok pix tel =>
        rw [evOfOp_ok c p bytes pix tel hres]
        refine ⟨?_, ?_, ?_⟩ <;> simp only [Pipe.fed, hres] <;> rfl

theorem fed_ok (c : PipeCfg) (p : Pipe F) (bytes : List Nat) (pix : Frame) (tel : Parse.Telemetry)
    (h : parseItem c bytes = .ok pix tel) :
    Pipe.fed c p (.item (.frame bytes)) =
      { p with det := PipeC15.detAfter c p pix tel, accepted := { pix := pix, tel := tel } :: p.accepted } := by
  simp only [Pipe.fed, h]

theorem closeOp_fields (q : Pipe F) (e : Ev) :
    (Pipe.closeOp q e).files = q.files ∧ (Pipe.closeOp q e).thr = q.thr ∧ (Pipe.closeOp q e).proc = q.proc ∧
    (Pipe.closeOp q e).accepted = q.accepted := by
  cases e <;> exact ⟨rfl, rfl, rfl, rfl⟩

/-- `op_eq`, field by field: the processor takes the model's step on the induced event, and the files / the
throttle state are what the step's observations, applied in order to the fed state, make of them -/
theorem op_shape (c : PipeCfg) (p : Pipe F) (o : PipeOp) :
    let r := PState.step c.proc p.proc (Pipe.evOfOp c p o)
    let q := r.2.foldl (Pipe.applyObs c) { Pipe.fed c p o with proc := r.1 }
    (Pipe.op c p o).proc = r.1 ∧ (Pipe.op c p o).files = q.files ∧ (Pipe.op c p o).thr = q.thr ∧
    (Pipe.op c p o).accepted.length = p.accepted.length + (if (Pipe.evOfOp c p o).isFrame then 1 else 0) := by
  intro r q
  obtain ⟨hf, ht, hp, ha⟩ := closeOp_fields q (Pipe.evOfOp c p o)
  obtain ⟨hfp, hfa⟩ := fold_proc_accepted c r.2 { Pipe.fed c p o with proc := r.1 }
  rw [op_eq]
  exact ⟨hp.trans hfp, hf, ht, by rw [ha, hfa]; exact (fed_fields c p o).2.2⟩

/-- the processor model's trace on `evs` from its initial state -/
abbrev trOf (c : PipeCfg) (evs : List Ev) : List Step := PState.trace c.proc (PState.init c.proc) evs

/-- the C12 monitor's state after a trace (`monC12` is its `fails`): its flags say which sinks have a file open
(`mon12_get`), which is what `krel_fold` / `ti_fold` ask of the monitor they continue from -/
abbrev mon12 (tr : List Step) : M12s := tr.foldl (fun m s => s.obs.foldl M12s.obs m) {}

/-- the processor component of `p` is the model's state after the event list `evs`, and `p` has accepted as many
frames as `evs` has frame events (the count only); the events carry the pipeline's fault record (no failing
motion-sink write or stop) -/
structure Induced (c : PipeCfg) (p : Pipe F) (evs : List Ev) : Prop where
  ev : ∀ e ∈ evs, PipeEv e
  proc : p.proc = PState.after c.proc (PState.init c.proc) evs
  acc : (evs.filter Ev.isFrame).length = p.accepted.length

theorem induced_event (c : PipeCfg) (p p' : Pipe F) (evs : List Ev) (e : Ev) (he : PipeEv e)
    (h : Induced c p evs) (hproc : p'.proc = (PState.step c.proc p.proc e).1)
    (hacc : p'.accepted.length = p.accepted.length + (if e.isFrame then 1 else 0)) :
    Induced c p' (evs ++ [e]) := by
  refine ⟨?_, ?_, ?_⟩
  · intro e' he'
    rcases List.mem_append.mp he' with he' | he'
    · exact h.ev e' he'
    · rw [List.mem_singleton] at he'; subst he'; exact he
  · rw [after_append, ← h.proc, hproc]; rfl
  · rw [List.filter_append, List.length_append, h.acc, hacc]
    cases e <;> rfl

/-- the observations of the next event, as the per-observation lemmas want them: `clean`, and accepted by
the C12 monitor continuing from the trace so far -/
theorem step_protocol (c : PipeCfg) (hK : 0 < c.proc.K) (evs : List Ev) (e : Ev) (he : PipeEv e) :
    (PState.step c.proc (PState.after c.proc (PState.init c.proc) evs) e).2.all clean = true ∧
    ((PState.step c.proc (PState.after c.proc (PState.init c.proc) evs) e).2.foldl M12s.obs
      (mon12 (trOf c evs))).fails = [] := by
  -- `0 < K` only because the C12 monitor also rejects the `panic` of a ring without history; files do not read the ring
  have h12 := c12_protocol_all c.proc hK (evs ++ [e])
  rw [trace_snoc] at h12
  simp only [monC12, List.foldl_append, List.foldl_cons, List.foldl_nil] at h12
  exact ⟨step_clean c.proc _ e he.1 he.2, h12⟩

theorem mon12_get (s : Sink) (tr : List Step) : (mon12 tr).get s = (fileAcc s tr).cur.isSome := by
  rw [mon12, ← List.foldl_flatMap]
  exact get_fold s _ {} {} (by cases s <;> rfl)

theorem mon12_mo (tr : List Step) : (mon12 tr).mo = (recAcc tr).cur.isSome := by
  rw [recAcc_eq_fileAcc]; exact mon12_get .motion tr

/-- **the files of sink `s`** follow the calls of the event on that sink (the motion sink: without throttle) -/
theorem krel_event (c : PipeCfg) (hK : 0 < c.proc.K) (s : Sink) (hs : s = .motion → c.throttle = false)
    (p p₀ : Pipe F) (evs : List Ev) (e : Ev) (he : PipeEv e)
    (hp : p.proc = PState.after c.proc (PState.init c.proc) evs) (h0 : p₀.files = p.files)
    (h : KRel (kf (kindOf s) p.files) (fileAcc s (trOf c evs))) :
    KRel (kf (kindOf s) ((PState.step c.proc p.proc e).2.foldl (Pipe.applyObs c) p₀).files)
      (fileAcc s (trOf c (evs ++ [e]))) := by
  obtain ⟨hcl, h12⟩ := step_protocol c hK evs e he
  rw [trOf, trace_snoc, fileAcc_snoc, hp]
  exact krel_fold c s hs _ p₀ _ (mon12 (trOf c evs)) hcl (mon12_get s _) h12 (by rw [h0]; exact h)

theorem induced_op (c : PipeCfg) (p : Pipe F) (evs : List Ev) (o : PipeOp) (h : Induced c p evs) :
    Induced c (Pipe.op c p o) (evs ++ [Pipe.evOfOp c p o]) := by
  obtain ⟨hproc, _, _, hacc⟩ := op_shape c p o
  exact induced_event c p _ evs _ (evOfOp_pipeEv c p o) h hproc hacc

theorem krel_op (c : PipeCfg) (hK : 0 < c.proc.K) (s : Sink) (hs : s = .motion → c.throttle = false)
    (p : Pipe F) (evs : List Ev) (o : PipeOp) (hi : Induced c p evs)
    (h : KRel (kf (kindOf s) p.files) (fileAcc s (trOf c evs))) :
    KRel (kf (kindOf s) (Pipe.op c p o).files) (fileAcc s (trOf c (evs ++ [Pipe.evOfOp c p o]))) := by
  rw [(op_shape c p o).2.1]
  exact krel_event c hK s hs p _ evs _ (evOfOp_pipeEv c p o) hi.proc (fed_fields c p o).1 h

/-- **behind the throttle** the motion files and the throttle state keep `TInv` across a step; and whatever holds
across single file operations (`R`, as in `PipeThr.ti_fold`) holds from the fed state across the step's
observations (`op_shape`: the files after them are the files after the step) -/
theorem ti_op (c : PipeCfg) (hK : 0 < c.proc.K) (hthr : c.throttle = true)
    (R : Pipe F → List Obs → Pipe F → Prop) (hnil : ∀ p, R p [] p)
    (hcons : ∀ p o q os r, OneOp c p o q → R q os r → R p (o :: os) r)
    (p : Pipe F) (evs : List Ev) (o : PipeOp) (hp : p.proc = PState.after c.proc (PState.init c.proc) evs)
    (h : TI c p (recAcc (trOf c evs))) :
    let r := PState.step c.proc p.proc (Pipe.evOfOp c p o)
    let p₀ : Pipe F := { Pipe.fed c p o with proc := r.1 }
    TI c (Pipe.op c p o) (recAcc (trOf c (evs ++ [Pipe.evOfOp c p o]))) ∧
    R p₀ r.2 (r.2.foldl (Pipe.applyObs c) p₀) := by
  intro r p₀
  obtain ⟨hcl, h12⟩ := step_protocol c hK evs _ (evOfOp_pipeEv c p o)
  obtain ⟨_, hfiles, hthrS, _⟩ := op_shape c p o
  obtain ⟨f1, f2, _⟩ := fed_fields c p o
  rw [trOf, trace_snoc, recAcc_append]
  rw [← hp] at hcl h12 ⊢
  obtain ⟨h1, h2⟩ := ti_fold c hthr R hnil hcons r.2 p₀ _ (mon12 (trOf c evs)) hcl (mon12_mo _) h12
    (ti_congr c p _ _ (congrArg mot f1) f2 h)
  exact ⟨ti_congr c _ _ _ (congrArg mot hfiles) hthrS h1, h2⟩

/-- The pipeline state `p` against the event list `evs`: processor component and number of accepted frames
(`Induced`); the files of the continuous and of the test sink mirror the calls the trace makes on them; so do
the motion files when no throttle sits in front of the motion sink (`KRel`), and behind the throttle they obey its
bookkeeping `TInv` instead. -/
structure Sim (c : PipeCfg) (p : Pipe F) (evs : List Ev) : Prop extends Induced c p evs where
  const : KRel (kf .const p.files) (fileAcc .const (trOf c evs))
  test : KRel (kf .test p.files) (fileAcc .test (trOf c evs))
  motion : c.throttle = false → KRel (kf .motion p.files) (fileAcc .motion (trOf c evs))
  thr : c.throttle = true → TI c p (recAcc (trOf c evs))

/-- without the throttle the motion files are the recordings of the induced trace -/
theorem sim_motionFiles {c : PipeCfg} {p : Pipe F} {evs : List Ev} (h : Sim c p evs) (hthr : c.throttle = false) :
    motionFiles p = recordings (trOf c evs) := by
  rw [recordings, recAcc_eq_fileAcc]
  exact krel_files .motion p _ (h.motion hthr)

theorem sim_init (c : PipeCfg) : Sim c (Pipe.init F c) [] :=
  { ev := fun _ he => (nomatch he), proc := rfl, acc := rfl,
    const := krel_init, test := krel_init, motion := fun _ => krel_init, thr := fun _ => tinv_init _ _ }

/-- the relation does not read the gates: they enter `Pipe.faults` only, so everything else of `withGates c g` is that
of `c` by definition, and each field passes from one configuration to the other as it is -/
theorem sim_withGates (c : PipeCfg) (g : GOp) (p : Pipe F) (evs : List Ev) :
    Sim (withGates c g) p evs ↔ Sim c p evs :=
  ⟨fun h => ⟨⟨h.ev, h.proc, h.acc⟩, h.const, h.test, h.motion, h.thr⟩,
   fun h => ⟨⟨h.ev, h.proc, h.acc⟩, h.const, h.test, h.motion, h.thr⟩⟩

theorem sim_op (c : PipeCfg) (hK : 0 < c.proc.K) (p : Pipe F) (evs : List Ev) (o : PipeOp)
    (h : Sim c p evs) : Sim c (Pipe.op c p o) (evs ++ [Pipe.evOfOp c p o]) :=
  { induced_op c p evs o h.toInduced with
    const := krel_op c hK .const (fun h => by cases h) p evs o h.toInduced h.const
    test := krel_op c hK .test (fun h => by cases h) p evs o h.toInduced h.test
    motion := fun ht => krel_op c hK .motion (fun _ => ht) p evs o h.toInduced (h.motion ht)
    thr := fun ht => (ti_op c hK ht (fun _ _ _ => True) (fun _ => trivial) (fun _ _ _ _ _ _ _ => trivial) p evs o
      h.proc (h.thr ht)).1 }

theorem sim_gop (c : PipeCfg) (hK : 0 < c.proc.K) (p : Pipe F) (evs : List Ev) (g : GOp) (h : Sim c p evs) :
    Sim c (Pipe.gop c p g) (evs ++ [Pipe.evOf c p g]) :=
  (sim_withGates c g _ _).mp (sim_op (withGates c g) hK p evs g.op ((sim_withGates c g p evs).mpr h))

theorem sim_fold (c : PipeCfg) (hK : 0 < c.proc.K) :
    ∀ (gs : List GOp) (p : Pipe F) (evs : List Ev), Sim c p evs →
      Sim c (gs.foldl (Pipe.gop c) p) (evs ++ evsFrom c p gs) := by
  intro gs
  induction gs with
  | nil => intro p evs h; simpa [evsFrom] using h
  | cons g gs ih =>
    intro p evs h
    have := ih _ _ (sim_gop c hK p evs g h)
    rw [List.append_assoc] at this
    exact this

/-- **the simulation**, after every history, with any gates, throttle on or off -/
theorem sim_runG (c : PipeCfg) (hK : 0 < c.proc.K) (gs : List GOp) : Sim c (runG F c gs) (evsG F c gs) := by
  have := sim_fold c hK gs (Pipe.init F c) [] (sim_init c)
  simpa [runG, evsG] using this

/-- a fixed configuration is the history whose gates never change -/
theorem foldl_op_eq_runG (c : PipeCfg) (ops : List PipeOp) (p : Pipe F) :
    ops.foldl (Pipe.op c) p = (ops.map fun o => (⟨c.windowOpen, c.diskOk, o⟩ : GOp)).foldl (Pipe.gop c) p := by
  induction ops generalizing p with
  | nil => rfl
  | cons o ops ih => rw [List.map_cons, List.foldl_cons, List.foldl_cons, ← ih]; rfl

theorem sim_ops (c : PipeCfg) (hK : 0 < c.proc.K) (ops : List PipeOp) :
    ∃ evs, Sim c (ops.foldl (Pipe.op c) (Pipe.init F c)) evs := by
  rw [foldl_op_eq_runG]
  exact ⟨_, sim_runG c hK _⟩

end TR.PipeSim

namespace TR.PipeC04
open TR TR.C01Spec TR.PipeC17 TR.C17Spec TR.PipeSim

variable {F : FloatOps}

theorem gop_proc (c : PipeCfg) (p : Pipe F) (g : GOp) :
    (Pipe.gop c p g).proc = (PState.step c.proc p.proc (Pipe.evOf c p g)).1 :=
  (op_shape (withGates c g) p g.op).1

/-- `C01Spec.PI` with the event list as a parameter: the pipeline state is the one induced by `evs` -/
def PIE (c : PipeCfg) (p : Pipe F) (evs : List Ev) : Prop :=
  (∀ e ∈ evs, PipeEv e) ∧
  p.proc = PState.after c.proc (PState.init c.proc) evs ∧
  FRel (mot p.files) (recAcc (PState.trace c.proc (PState.init c.proc) evs)) ∧
  (evs.filter Ev.isFrame).length = p.accepted.length

theorem pie_pi {c : PipeCfg} {p : Pipe F} {evs : List Ev} (h : PIE c p evs) : PI c p := ⟨evs, h⟩

/-- `PIE` is the part of `Sim` that speaks of the motion files without the throttle -/
theorem pie_iff {c : PipeCfg} {p : Pipe F} {evs : List Ev} :
    PIE c p evs ↔ Induced c p evs ∧ KRel (kf .motion p.files) (fileAcc .motion (trOf c evs)) := by
  unfold PIE
  rw [recAcc_eq_fileAcc]
  exact ⟨fun ⟨h1, h2, h3, h4⟩ => ⟨⟨h1, h2, h4⟩, h3⟩, fun ⟨⟨h1, h2, h4⟩, h3⟩ => ⟨h1, h2, h3, h4⟩⟩

theorem pie_of_fold (c : PipeCfg) (hK : 0 < c.proc.K) (hthr : c.throttle = false) (p p' p₀ : Pipe F)
    (evs : List Ev) (e : Ev) (he : PipeEv e) (h : PIE c p evs)
    (hq : p' = (PState.step c.proc p.proc e).2.foldl (Pipe.applyObs c) p₀)
    (h0 : p₀.files = p.files) (h1 : p₀.proc = (PState.step c.proc p.proc e).1)
    (h2 : p₀.accepted.length = p.accepted.length + (if e.isFrame then 1 else 0)) : PIE c p' (evs ++ [e]) := by
  subst hq
  have hfr := fold_proc_accepted c (PState.step c.proc p.proc e).2 p₀
  obtain ⟨hi, hk⟩ := pie_iff.mp h
  exact pie_iff.mpr ⟨induced_event c p _ evs e he hi (hfr.1.trans h1) (by rw [hfr.2]; exact h2),
    krel_event c hK .motion (fun _ => hthr) p p₀ evs e he hi.proc h0 hk⟩

end TR.PipeC04
