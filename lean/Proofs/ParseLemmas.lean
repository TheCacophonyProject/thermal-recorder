import TR.Parse
/-!
# Proofs.ParseLemmas — a Lepton frame given as telemetry block ++ pixel block is parsed block by block

`parseLepton` takes the telemetry from the first 64 bytes and the pixels from the accessor shifted by the 640
telemetry bytes (`parseLepton_append`); so a run over frames given this way can be evaluated without walking the
byte list once per pixel read.
-/
namespace TR.Parse

theorem leptonTelemetry_congr (raw raw' : Raw) (h : ∀ i, i < 64 → raw i = raw' i) :
    leptonTelemetry raw = leptonTelemetry raw' := by
  simp only [leptonTelemetry, big16u32, be16, byteAt]
  simp only [h, Nat.reduceMul, Nat.reduceAdd, Nat.reduceLT]

/-- the accessor on the left is the one `Pipe.item` builds from the bytes of a socket frame, here `H ++ P` -/
theorem parseLepton_append (H P : List Nat) (hH : H.length = leptonTelemetryBytes) (w hh e : Nat) :
    parseLepton (fun i => (H ++ P).toArray.getD i 0) w hh e =
      match firstBad be16 (ofList P) 0 w hh e with
      | some p => .bad p.1 p.2
      | none => .ok (fun y x => pixel be16 (ofList P) 0 w y x) (leptonTelemetry (ofList H)) := by
  have hp : ∀ y x, pixel be16 (fun i => (H ++ P).toArray.getD i 0) leptonTelemetryBytes w y x =
      pixel be16 (ofList P) 0 w y x := fun y x => by
    simp [pixel, be16, byteAt, ofList, ← hH, List.getElem?_append_right, Nat.add_assoc]
  have ht : leptonTelemetry (fun i => (H ++ P).toArray.getD i 0) = leptonTelemetry (ofList H) :=
    leptonTelemetry_congr _ _ fun i hi => by
      have : i < H.length := by rw [hH]; exact Nat.lt_trans hi (by decide)
      simp [ofList, List.getElem?_append_left, this]
  simp only [parseLepton, firstBad, hp, ht]
  rfl

/-- a 32-bit telemetry value whose three upper bytes are zero -/
theorem big16u32_low (raw : Raw) (j a : Nat) (h0 : raw (2 * j) = a) (h1 : raw (2 * j + 1) = 0)
    (h2 : raw (2 * j + 2) = 0) (h3 : raw (2 * j + 2 + 1) = 0) : big16u32 raw j = 256 * a := by
  simp only [big16u32, be16, byteAt, h0, h1, h2, h3]
  omega

end TR.Parse
