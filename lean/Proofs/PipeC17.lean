import Proofs.C17Spec
import Proofs.PipeC04
/-!
# Proofs.PipeC17 — the continuous and the test recorder of the composed pipeline

The files of a sink are the files of that sink of the induced trace (`sink_files`, from the simulation
`PipeSim.sim_runG`; the throttle sits on the motion sink only), so the processor-level results of `C17Spec` carry
over.  What is proved here besides: the calls on the continuous sink are a function of `(n, crFrames)` and the KIND
of the event, those on the test sink of `n`, the snapshot fields and the kind, and the kinds depend on the
ops of the history alone — hence independence of gates, detector and throttle (`sinkFiles_kinds`); test requests
are invisible to the continuous recorder (`constAcc_dropReq`); and they change nothing but the test files and the
three snapshot fields of the processor (two histories in lockstep, `UpToTest`, compared after erasing the test
files, `erase`).
-/
namespace TR.PipeC17
open TR TR.C01Spec TR.PipeC04 TR.C17Spec TR.PipeSim

variable {F : FloatOps}

def constFiles (p : Pipe F) : List (List Nat) := filesOfKind .const p
def testFiles (p : Pipe F) : List (List Nat) := filesOfKind .test p

/-- frame-id lists of the files of kind `k` that were closed by `StopRecording`, oldest first -/
def closedFilesOfKind (k : FileKind) (p : Pipe F) : List (List Nat) :=
  (p.files.reverse.filter (fun f => f.kind == k && f.closed)).map (·.frames)

theorem motionFiles_eq_kind (p : Pipe F) : motionFiles p = filesOfKind .motion p := rfl

theorem kf_motion (fs : List RecFile) : kf .motion fs = mot fs := rfl

theorem krel_closed (k : FileKind) (p : Pipe F) (a : FAcc) (h : KRel (kf k p.files) a) :
    closedFilesOfKind k p = a.done := by
  obtain ⟨rest, hcl, hmap, hcur⟩ := h
  have e : closedFilesOfKind k p = ((((kf k p.files).filter (·.closed))).map (·.frames)).reverse := by
    simp only [closedFilesOfKind, kf, List.filter_reverse, List.map_reverse, List.filter_filter]
    congr 3
    funext f
    exact Bool.and_comm _ _
  have hrest : rest.filter (·.closed) = rest := List.filter_eq_self.mpr hcl
  rw [e]
  cases hc : a.cur with
  | none =>
    rw [hc] at hcur
    simp only at hcur
    rw [hcur, hrest, hmap, List.reverse_reverse]
  | some r =>
    rw [hc] at hcur
    obtain ⟨x, hx, hxc, _⟩ := hcur
    rw [hx, List.filter_cons_of_neg (by simp [hxc]), hrest, hmap, List.reverse_reverse]

/-- **the files of a sink are the files of that sink of the induced trace** — all of them, and the finished ones;
throttle on or off for the continuous and the test sink, without the throttle for the motion sink -/
theorem sink_files (c : PipeCfg) (hK : 0 < c.proc.K) (gs : List GOp) (s : Sink)
    (hs : s = .motion → c.throttle = false) :
    filesOfKind (kindOf s) (runG F c gs) = filesOf s (PState.trace c.proc (PState.init c.proc) (evsG F c gs)) ∧
    closedFilesOfKind (kindOf s) (runG F c gs) =
      closedFilesOf s (PState.trace c.proc (PState.init c.proc) (evsG F c gs)) := by
  have h := sim_runG (F := F) c hK gs
  have hk : KRel (kf (kindOf s) (runG F c gs).files) (fileAcc s (trOf c (evsG F c gs))) := by
    cases s with
    | motion => exact h.motion (hs rfl)
    | const => exact h.const
    | test => exact h.test
  exact ⟨krel_files _ _ _ hk, krel_closed _ _ _ hk⟩

section procDep
open PState

/-- the kind of an event: all that the continuous and the test recorder see of it -/
inductive EvKind | frame | bad | reset | testReq
  deriving DecidableEq, Repr

def evKind : Ev → EvKind
  | .frame _ _ => .frame
  | .bad _ => .bad
  | .reset _ => .reset
  | .testReq => .testReq

def CClean (f : Faults) : Prop := f.cStart = true ∧ f.cWrite = true ∧ f.cStop = true
def TClean (f : Faults) : Prop := f.tStart = true ∧ f.tWrite = true ∧ f.tStop = true

theorem cleanEv_split (e : Ev) (h : cleanEv e = true) : CClean e.faults ∧ TClean e.faults := by
  simp only [cleanEv, Bool.and_eq_true] at h
  obtain ⟨⟨⟨⟨⟨h1, h2⟩, h3⟩, h4⟩, h5⟩, h6⟩ := h
  exact ⟨⟨h1, h2, h3⟩, ⟨h4, h5, h6⟩⟩

/-- the part of the processor state the continuous recorder reads and writes -/
def CEq (s s' : PState) : Prop := s.n = s'.n ∧ s.crFrames = s'.crFrames
/-- the part of the processor state the test recorder reads and writes -/
def TEq (s s' : PState) : Prop :=
  s.n = s'.n ∧ s.startSnap = s'.startSnap ∧ s.snapRec = s'.snapRec ∧ s.snapFrames = s'.snapFrames

/-- what an event of kind `k` does on the continuous sink: the calls, and the next frame count of the open
file -/
def constEv (c : PCfg) (cr n : Nat) (f : Faults) : EvKind → List Obs × Nat
  | .frame => (constObs c cr n f, constNext c cr f)
  | .bad => (if c.constOn then [Obs.call .const .stop f.cStop] else [], if c.constOn then 0 else cr)
  | _ => ([], cr)

theorem step_const (c : PCfg) (s : PState) (e : Ev) :
    obsOf .const (PState.step c s e).2 = (constEv c s.crFrames s.n e.faults (evKind e)).1 ∧
    (PState.step c s e).1.crFrames = (constEv c s.crFrames s.n e.faults (evKind e)).2 := by
  cases e with
  | frame m f => exact ⟨(step_frame_sinks c s m f).1, by rw [step_frame]; rfl⟩
  | bad f => rw [step_bad]; unfold constEv; cases s.isRec <;> cases c.constOn <;> exact ⟨rfl, rfl⟩
  | reset f => rw [step_reset]; cases s.isRec <;> exact ⟨rfl, rfl⟩
  | testReq => exact ⟨rfl, rfl⟩

/-- what an event of kind `k` does on the test sink: the calls, and the next snapshot fields -/
def testEv (c : PCfg) (s : PState) (f : Faults) : EvKind → List Obs × Bool × Bool × Nat
  | .frame => (testObs c s s.n f, false, testOpen s f && !testFull c s,
      if testOpen s f then (if testFull c s && f.tStop then 0 else s.snapFrames + 1) else s.snapFrames)
  | .testReq => ([], true, s.snapRec, s.snapFrames)
  | _ => ([], s.startSnap, s.snapRec, s.snapFrames)

theorem step_test (c : PCfg) (s : PState) (e : Ev) :
    (obsOf .test (PState.step c s e).2, (PState.step c s e).1.startSnap, (PState.step c s e).1.snapRec,
      (PState.step c s e).1.snapFrames) = testEv c s e.faults (evKind e) := by
  cases e with
  | frame m f =>
    rw [(step_frame_sinks c s m f).2.1, step_frame]; rfl
  | bad f => rw [step_bad]; cases s.isRec <;> cases c.constOn <;> rfl
  | reset f => rw [step_reset]; cases s.isRec <;> rfl
  | testReq => rfl

theorem step_n_kind (c : PCfg) (s : PState) (e : Ev) :
    (PState.step c s e).1.n = s.n + (if evKind e = .frame then 1 else 0) := by
  rw [step_n]; cases e <;> rfl

/-- **the calls on the continuous sink and the next `(n, crFrames)` are a function of `(n, crFrames)` and the
kind of the event** (no failure dictated on that sink) -/
theorem step_const_dep (c : PCfg) (s s' : PState) (e e' : Ev) (h : CEq s s') (hk : evKind e = evKind e')
    (hf : CClean e.faults) (hf' : CClean e'.faults) :
    CEq (PState.step c s e).1 (PState.step c s' e').1 ∧
    obsOf .const (PState.step c s e).2 = obsOf .const (PState.step c s' e').2 := by
  obtain ⟨hn, hcr⟩ := h
  obtain ⟨a1, a2, a3⟩ := hf
  obtain ⟨b1, b2, b3⟩ := hf'
  have hev : constEv c s.crFrames s.n e.faults (evKind e) = constEv c s'.crFrames s'.n e'.faults (evKind e') := by
    rw [← hk, hn, hcr]
    cases evKind e <;> simp only [constEv, constObs, constNext, constOpen, a1, a2, a3, b1, b2, b3]
  rw [(step_const c s e).1, (step_const c s' e').1, CEq, (step_const c s e).2, (step_const c s' e').2,
    step_n_kind, step_n_kind, hev, hk, hn]
  exact ⟨⟨rfl, rfl⟩, rfl⟩

/-- a test request is invisible to the continuous recorder -/
theorem step_const_req (c : PCfg) (s : PState) :
    CEq (PState.step c s .testReq).1 s ∧ (PState.step c s .testReq).2 = [] := ⟨⟨rfl, rfl⟩, rfl⟩

/-- **the calls on the test sink and the next snapshot fields are a function of `n`, the snapshot fields and
the kind of the event** (no failure dictated on that sink) -/
theorem step_test_dep (c : PCfg) (s s' : PState) (e e' : Ev) (h : TEq s s') (hk : evKind e = evKind e')
    (hf : TClean e.faults) (hf' : TClean e'.faults) :
    TEq (PState.step c s e).1 (PState.step c s' e').1 ∧
    obsOf .test (PState.step c s e).2 = obsOf .test (PState.step c s' e').2 := by
  obtain ⟨hn, h1, h2, h3⟩ := h
  obtain ⟨a1, a2, a3⟩ := hf
  obtain ⟨b1, b2, b3⟩ := hf'
  have hev : testEv c s e.faults (evKind e) = testEv c s' e'.faults (evKind e') := by
    rw [← hk]
    cases evKind e <;> simp only [testEv, testObs, testOpen, testFull, hn, h1, h2, h3, a1, a2, a3, b1, b2, b3]
  have hs := (step_test c s e).trans (hev.trans (step_test c s' e').symm)
  simp only [Prod.mk.injEq] at hs
  obtain ⟨o, p1, p2, p3⟩ := hs
  exact ⟨⟨by rw [step_n_kind, step_n_kind, hk, hn], p1, p2, p3⟩, o⟩

/-- the accumulator of sink `s` over a trace, started from `a` (`fileAcc s tr = accFrom s tr {}`) -/
def accFrom (s : Sink) (tr : List Step) (a : FAcc) : FAcc :=
  tr.foldl (fun a st => st.obs.foldl (FAcc.obs s) a) a

theorem fileAcc_accFrom (s : Sink) (tr : List Step) : fileAcc s tr = accFrom s tr {} := fileAcc_eq s tr

theorem accFrom_cons (s : Sink) (st : Step) (tr : List Step) (a : FAcc) :
    accFrom s (st :: tr) a = accFrom s tr ((obsOf s st.obs).foldl (FAcc.obs s) a) := by
  simp only [accFrom, List.foldl_cons, facc_fold_obsOf s st.obs a]

def notReq : Ev → Bool
  | .testReq => false
  | _ => true

/-- two runs on events of the same kinds, from states that agree as far as sink `k` reads them (`V`, kept by
every step: `hstep`): the accumulator of the sink is the same -/
theorem accFrom_shape (c : PCfg) (k : Sink) (V : PState → PState → Prop) (Cl : Faults → Prop)
    (hstep : ∀ s s' e e', V s s' → evKind e = evKind e' → Cl e.faults → Cl e'.faults →
      V (PState.step c s e).1 (PState.step c s' e').1 ∧
      obsOf k (PState.step c s e).2 = obsOf k (PState.step c s' e').2) :
    ∀ (evs evs' : List Ev) (s s' : PState) (a : FAcc), V s s' → evs.map evKind = evs'.map evKind →
      (∀ e ∈ evs, Cl e.faults) → (∀ e ∈ evs', Cl e.faults) →
      accFrom k (PState.trace c s evs) a = accFrom k (PState.trace c s' evs') a := by
  intro evs
  induction evs with
  | nil =>
    intro evs' s s' a _ hk _ _
    cases evs' with
    | nil => rfl
    | cons e' es' => cases hk
  | cons e es ih =>
    intro evs' s s' a h hk hf hf'
    cases evs' with
    | nil => cases hk
    | cons e' es' =>
      simp only [List.map_cons, List.cons.injEq] at hk
      obtain ⟨d1, d2⟩ := hstep s s' e e' h hk.1 (hf e (List.mem_cons_self ..)) (hf' e' (List.mem_cons_self ..))
      simp only [PState.trace]
      rw [accFrom_cons, accFrom_cons]
      simp only
      rw [d2]
      exact ih es' _ _ _ d1 hk.2 (fun x hx => hf x (List.mem_cons_of_mem _ hx))
        (fun x hx => hf' x (List.mem_cons_of_mem _ hx))

/-- **test requests are invisible to the continuous recorder**: dropping them from the event list leaves the
accumulator of the continuous sink unchanged -/
theorem constAcc_dropReq (c : PCfg) : ∀ (evs : List Ev) (s s' : PState) (a : FAcc), CEq s s' →
    (∀ e ∈ evs, CClean e.faults) →
    accFrom .const (PState.trace c s evs) a = accFrom .const (PState.trace c s' (evs.filter notReq)) a := by
  intro evs
  induction evs with
  | nil => intro s s' a _ _; rfl
  | cons e es ih =>
    intro s s' a h hf
    have hf2 : ∀ x ∈ es, CClean x.faults := fun x hx => hf x (List.mem_cons_of_mem _ hx)
    cases hq : notReq e
    · have he : e = .testReq := by cases e <;> first | rfl | cases hq
      subst he
      rw [List.filter_cons_of_neg (by simp [hq])]
      simp only [PState.trace]
      rw [accFrom_cons]
      exact ih _ s' _ h hf2
    · have hc := hf _ (List.mem_cons_self ..)
      obtain ⟨d1, d2⟩ := step_const_dep c s s' e e h rfl hc hc
      rw [List.filter_cons_of_pos hq]
      simp only [PState.trace]
      rw [accFrom_cons, accFrom_cons]
      simp only
      rw [d2]
      exact ih _ _ _ d1 hf2

/-! ### `segments`, `testStarts`, the number of frames and the spacing read the kinds of the events only -/

theorem segAcc_trace (c : PCfg) (s : PState) (evs : List Ev) :
    segAcc (PState.trace c s evs) = evs.foldl SegAcc.step {} := by
  rw [segAcc, ← List.foldl_map, trace_evs]

/-- `SegAcc.step` on the kind of an event -/
def segStepK (g : SegAcc) : EvKind → SegAcc
  | .frame => { g with n := g.n + 1, cur := g.cur ++ [g.n] }
  | .bad => { g with done := g.done ++ [g.cur], cur := [] }
  | _ => g

theorem segFoldK (evs : List Ev) (g : SegAcc) : evs.foldl SegAcc.step g = (evs.map evKind).foldl segStepK g := by
  rw [List.foldl_map]
  congr 1
  funext g e
  cases e <;> rfl

theorem segments_dropReq (c : PCfg) (s s' : PState) (evs : List Ev) :
    segments (PState.trace c s evs) = segments (PState.trace c s' (evs.filter notReq)) := by
  have h : ∀ g : SegAcc, (evs.filter notReq).foldl SegAcc.step g = evs.foldl SegAcc.step g := by
    intro g
    rw [List.foldl_filter]
    congr 1
    funext g e
    cases e <;> rfl
  simp only [segments, segAcc_trace, h]

theorem segments_kinds (c : PCfg) (s s' : PState) (evs evs' : List Ev) (hk : evs.map evKind = evs'.map evKind) :
    segments (PState.trace c s evs) = segments (PState.trace c s' evs') := by
  simp only [segments, segAcc_trace, segFoldK, hk]

theorem frames_dropReq (evs : List Ev) : (evs.filter notReq).filter Ev.isFrame = evs.filter Ev.isFrame := by
  rw [List.filter_filter]
  congr 1
  funext e
  cases e <;> rfl

/-- `spacedFrom` on the kinds of the events -/
def spacedK (k : Nat) : Option Nat → List EvKind → Bool
  | _, [] => true
  | s, .testReq :: es => (match s with | none => true | some j => decide (k ≤ j)) && spacedK k (some 0) es
  | s, .frame :: es => spacedK k (s.map (· + 1)) es
  | s, _ :: es => spacedK k s es

theorem spacedFrom_kinds (k : Nat) : ∀ (evs : List Ev) (s : Option Nat),
    spacedFrom k s evs = spacedK k s (evs.map evKind) := by
  intro evs
  induction evs with
  | nil => intro s; rfl
  | cons e es ih =>
    intro s
    cases e with
    | testReq =>
      simp only [List.map_cons, evKind, spacedFrom, spacedK, ih]
      cases s <;> rfl
    | frame m f | bad f | reset f => simp only [List.map_cons, evKind, spacedFrom, spacedK, ih]

theorem spacedFrom_noReq (k : Nat) : ∀ (evs : List Ev) (s : Option Nat), (∀ e ∈ evs, notReq e = true) →
    spacedFrom k s evs = true := by
  intro evs
  induction evs with
  | nil => intro s _; rfl
  | cons e es ih =>
    intro s h
    have h2 : ∀ x ∈ es, notReq x = true := fun x hx => h x (List.mem_cons_of_mem _ hx)
    cases e with
    | testReq => exact absurd (h _ (List.mem_cons_self ..)) (by simp [notReq])
    | frame m f | bad f | reset f => simp only [spacedFrom]; exact ih _ h2

end procDep

/-- the kind of the event a pipeline op induces: it depends on the op (and the parser) only — not on the gates,
not on the detector, not on the state -/
def opKind (c : PipeCfg) : PipeOp → EvKind
  | .testReq => .testReq
  | .item .clear => .reset
  | .item (.frame bytes) =>
    match parseItem c bytes with
    | .bad _ _ => .bad
    | .ok _ _ => .frame

theorem evOf_kind (c : PipeCfg) (p : Pipe F) (g : GOp) : evKind (Pipe.evOf c p g) = opKind c g.op := by
  rcases evOf_cases c p g with ⟨h1, h2⟩ | ⟨h1, h2⟩ | ⟨bytes, y, x, h1, hp, h2⟩ | ⟨bytes, pix, tel, h1, hp, h2⟩
  · rw [h1, h2]; rfl
  · rw [h1, h2]; rfl
  · rw [h1, h2]; simp only [opKind, hp, evKind]
  · rw [h1, h2]; simp only [opKind, hp, evKind]

/-- **under the pipeline's fault record every induced event is `cleanEv`**: the window and the disk gate are
the only things that vary, every call on the continuous and the test sink succeeds -/
theorem evOf_clean (c : PipeCfg) (p : Pipe F) (g : GOp) : cleanEv (Pipe.evOf c p g) = true := by
  rcases evOfOp_faults (withGates c g) p g.op with h | h
  · rw [Pipe.evOf, h]; rfl
  · rw [cleanEv, show (Pipe.evOf c p g).faults = _ from h]; rfl

theorem evsFrom_kinds (c : PipeCfg) : ∀ (gs : List GOp) (p : Pipe F),
    (evsFrom c p gs).map evKind = gs.map (fun g => opKind c g.op) := by
  intro gs
  induction gs with
  | nil => intro p; rfl
  | cons g gs ih => intro p; simp only [evsFrom, List.map_cons, evOf_kind, ih]

theorem evsG_kinds (c : PipeCfg) (gs : List GOp) :
    (evsG F c gs).map evKind = gs.map (fun g => opKind c g.op) := evsFrom_kinds c gs _

theorem evsG_clean (c : PipeCfg) (gs : List GOp) : ∀ e ∈ evsG F c gs, cleanEv e = true :=
  evsFrom_all c _ (evOf_clean c) gs _

/-- `TAcc.step` on the kind of an event -/
def tStepK (t : TAcc) : EvKind → TAcc
  | .frame => { n := t.n + 1, pending := false, starts := t.starts ++ (if t.pending then [t.n] else []) }
  | .testReq => { t with pending := true }
  | _ => t

theorem tFoldK (evs : List Ev) (t : TAcc) : evs.foldl TAcc.step t = (evs.map evKind).foldl tStepK t := by
  rw [List.foldl_map]
  congr 1
  funext t e
  cases e <;> rfl

theorem tAcc_trace (c : PCfg) (s : PState) (evs : List Ev) :
    tAcc (PState.trace c s evs) = evs.foldl TAcc.step {} := by
  rw [tAcc, ← List.foldl_map, trace_evs]

/-- the kinds of the events a history induces -/
def opKinds (c : PipeCfg) (gs : List GOp) : List EvKind := gs.map (fun g => opKind c g.op)

theorem opKinds_of_ops (c : PipeCfg) {gs gs' : List GOp} (h : gs.map (·.op) = gs'.map (·.op)) :
    opKinds c gs = opKinds c gs' := by
  have : ∀ l : List GOp, opKinds c l = (l.map (·.op)).map (opKind c) := fun l => by rw [List.map_map]; rfl
  rw [this, this, h]

/-- **the continuous and the test files depend on the kinds of the steps only**: two histories whose steps induce
events of the same kinds have the same continuous and the same test files — whatever the gates, the detector, the
throttle; the two configurations need only agree on the processor's -/
theorem sinkFiles_kinds {F' : FloatOps} (c c' : PipeCfg) (hK : 0 < c.proc.K) (hc : c'.proc = c.proc)
    (gs gs' : List GOp) (hk : opKinds c gs = opKinds c' gs') :
    constFiles (runG F c gs) = constFiles (runG F' c' gs') ∧ testFiles (runG F c gs) = testFiles (runG F' c' gs') := by
  have hk' : (evsG F c gs).map evKind = (evsG F' c' gs').map evKind := by rw [evsG_kinds, evsG_kinds]; exact hk
  have hcl := fun e he => cleanEv_split e (evsG_clean (F := F) c gs e he)
  have hcl' := fun e he => cleanEv_split e (evsG_clean (F := F') c' gs' e he)
  have hC := accFrom_shape c.proc .const CEq CClean (step_const_dep c.proc) _ _ (PState.init c.proc)
    (PState.init c.proc) {} ⟨rfl, rfl⟩ hk' (fun e he => (hcl e he).1) (fun e he => (hcl' e he).1)
  have hT := accFrom_shape c.proc .test TEq TClean (step_test_dep c.proc) _ _ (PState.init c.proc)
    (PState.init c.proc) {} ⟨rfl, rfl, rfl, rfl⟩ hk' (fun e he => (hcl e he).2) (fun e he => (hcl' e he).2)
  show filesOfKind (kindOf .const) _ = filesOfKind (kindOf .const) _ ∧
    filesOfKind (kindOf .test) _ = filesOfKind (kindOf .test) _
  rw [(sink_files c hK gs .const nofun).1, (sink_files c' (hc ▸ hK) gs' .const nofun).1,
    (sink_files c hK gs .test nofun).1, (sink_files c' (hc ▸ hK) gs' .test nofun).1, hc]
  exact ⟨by simp only [filesOf, closedFilesOf, openFileOf, fileAcc_accFrom, hC],
    by simp only [filesOf, closedFilesOf, openFileOf, fileAcc_accFrom, hT]⟩

/-- the accepted-frame ids of a history cut at the rejected frames — read off the ops alone -/
def opSegments (c : PipeCfg) (gs : List GOp) : List (List Nat) :=
  ((opKinds c gs).foldl segStepK {}).done ++ [((opKinds c gs).foldl segStepK {}).cur]

/-- the ids of the accepted frames that are the first accepted frame after a test request — read off the ops
alone -/
def reqStarts (c : PipeCfg) (gs : List GOp) : List Nat := ((opKinds c gs).foldl tStepK {}).starts

/-- between two test requests of the history at least `k` frames are accepted — read off the ops alone -/
def reqsSpacedG (c : PipeCfg) (k : Nat) (gs : List GOp) : Bool := spacedK k none (opKinds c gs)

theorem segments_evsG (c : PipeCfg) (s : PState) (gs : List GOp) :
    segments (PState.trace c.proc s (evsG F c gs)) = opSegments c gs := by
  simp only [segments, segAcc_trace, segFoldK, evsG_kinds, opSegments, opKinds]

theorem testStarts_evsG (c : PipeCfg) (s : PState) (gs : List GOp) :
    testStarts (PState.trace c.proc s (evsG F c gs)) = reqStarts c gs := by
  simp only [testStarts, tAcc_trace, tFoldK, evsG_kinds, reqStarts, opKinds]

theorem spaced_evsG (c : PipeCfg) (k : Nat) (gs : List GOp) :
    spacedFrom k none (evsG F c gs) = reqsSpacedG c k gs := by
  rw [spacedFrom_kinds, evsG_kinds]; rfl

section snap
open PState

/-- the observations that are not calls on the test sink -/
def nonTest (obs : List Obs) : List Obs := obs.filter (fun o => !onSink .test o)

theorem nonTest_append (a b : List Obs) : nonTest (a ++ b) = nonTest a ++ nonTest b := by
  simp [nonTest]

def setSnap (s : PState) (a b : Bool) (k : Nat) : PState :=
  { s with startSnap := a, snapRec := b, snapFrames := k }

/-- equal up to the three snapshot fields -/
def SnapEq (s s' : PState) : Prop := ∃ a b k, s' = setSnap s a b k

theorem snapEq_refl (s : PState) : SnapEq s s := ⟨s.startSnap, s.snapRec, s.snapFrames, rfl⟩

theorem testObs_nonTest (c : PCfg) (s : PState) (id : Nat) (f : Faults) : nonTest (testObs c s id f) = [] := by
  rw [nonTest, List.filter_eq_nil_iff]
  intro o ho
  obtain ⟨cl, ok, rfl⟩ := cycleObs_calls _ _ _ _ _ _ _ _ o ho
  simp [onSink]

/-- **one event**: from two states that differ in the snapshot fields only, the
results differ in the snapshot fields only and the observations differ in calls on the test sink only -/
theorem step_snap_dep (c : PCfg) (s s' : PState) (e : Ev) (h : SnapEq s s') :
    SnapEq (PState.step c s e).1 (PState.step c s' e).1 ∧
    nonTest (PState.step c s' e).2 = nonTest (PState.step c s e).2 := by
  obtain ⟨a, b, k, rfl⟩ := h
  cases e with
  | frame m f =>
    -- the motion path and the continuous recorder do not read the snapshot fields
    rw [step_frame, step_frame,
      show process c (P03.pre (setSnap s a b k)) m f = _ from process_others c (P03.pre s) m f s.crFrames a b k]
    refine ⟨⟨_, _, _, rfl⟩, ?_⟩
    simp only [nonTest_append, testObs_nonTest]
    rfl
  | bad f =>
    have e := step_bad c (setSnap s a b k) f
    rw [show (setSnap s a b k).isRec = s.isRec from rfl] at e
    rw [step_bad, e]
    cases s.isRec <;> exact ⟨⟨a, b, k, rfl⟩, rfl⟩
  | reset f =>
    have e := step_reset c (setSnap s a b k) f
    rw [show (setSnap s a b k).isRec = s.isRec from rfl] at e
    rw [step_reset, e]
    cases s.isRec <;> exact ⟨⟨a, b, k, rfl⟩, rfl⟩
  | testReq => exact ⟨⟨true, b, k, rfl⟩, rfl⟩

theorem step_req_snap (c : PCfg) (s s' : PState) (h : SnapEq s s') :
    SnapEq s (PState.step c s' .testReq).1 := by
  obtain ⟨a, b, k, rfl⟩ := h
  exact ⟨true, b, k, rfl⟩

end snap

open TR.PipeThr TR.PipeLemmas

/-- the files that are not test recordings, newest first -/
def nt (fs : List RecFile) : List RecFile := fs.filter (fun f => f.kind != .test)

/-- the pipeline state with its test files erased and its processor state replaced by `s`: what is left is
detector, throttle, stored threshold, accepted frames, counters, and the motion and continuous files with their
headers, in start order.  Erasing commutes with everything the pipeline does with an observation that is not a
call on the test sink (`erase_obs`), and absorbs the calls on the test sink (`erase_test`). -/
def erase (s : PState) (p : Pipe F) : Pipe F := { p with files := nt p.files, proc := s }

theorem nt_cons_keep (x : RecFile) (fs : List RecFile) (h : x.kind ≠ .test) : nt (x :: fs) = x :: nt fs := by
  simp [nt, h]

theorem nt_cons_drop (x : RecFile) (fs : List RecFile) (h : x.kind = .test) : nt (x :: fs) = nt fs := by
  simp [nt, h]

theorem updOpen_nt_test (fs : List RecFile) (u : RecFile → RecFile) (hu : ∀ x, (u x).kind = x.kind) :
    nt (Pipe.updOpen fs .test u) = nt fs :=
  (updOpen_filter (· != .test) .test u hu fs).trans (if_neg (by simp))

theorem updOpen_nt_other (k : FileKind) (hk : k ≠ .test) (fs : List RecFile) (u : RecFile → RecFile)
    (hu : ∀ x, (u x).kind = x.kind) : nt (Pipe.updOpen fs k u) = Pipe.updOpen (nt fs) k u :=
  (updOpen_filter (· != .test) k u hu fs).trans (if_pos (by simpa using hk))

theorem kf_nt (k : FileKind) (hk : k ≠ .test) (fs : List RecFile) : kf k (nt fs) = kf k fs := by
  simp only [kf, nt, List.filter_filter]
  congr 1
  funext f
  by_cases h : f.kind = k
  · simp [h, hk]
  · simp [h]

theorem erase_files (s : PState) (p : Pipe F) {fs fs' : List RecFile} (h : nt fs = fs') :
    erase s { p with files := fs } = { erase s p with files := fs' } :=
  congrArg (fun l => ({ p with files := l, proc := s } : Pipe F)) h

/-- a call on the test sink is absorbed -/
theorem erase_test (c : PipeCfg) (s : PState) (p : Pipe F) (cl : Call) (ok : Bool) :
    erase s (Pipe.applyObs c p (.call .test cl ok)) = erase s p := by
  cases cl with
  | can => cases ok <;> rfl
  | start =>
    cases ok with
    | false => rfl
    | true => exact erase_files s p (nt_cons_drop _ _ rfl)
  | write id | stop => cases ok <;> exact erase_files s p (updOpen_nt_test p.files _ (fun _ => rfl))

theorem erase_start (c : PipeCfg) (s : PState) (p : Pipe F) (k : FileKind) (hk : k ≠ .test) (t : Nat) :
    erase s (Pipe.startFile c p k t) = Pipe.startFile c (erase s p) k t :=
  erase_files s p (nt_cons_keep _ _ hk)

/-- `writeFile` and `stopFile` on a kind other than test -/
theorem erase_upd (s : PState) (p : Pipe F) (k : FileKind) (hk : k ≠ .test) (u : RecFile → RecFile)
    (hu : ∀ x, (u x).kind = x.kind) :
    erase s { p with files := Pipe.updOpen p.files k u } =
      { erase s p with files := Pipe.updOpen (erase s p).files k u } :=
  erase_files s p (updOpen_nt_other k hk p.files u hu)

theorem erase_tobs (c : PipeCfg) (s : PState) (p : Pipe F) (t : TObs) :
    erase s (Pipe.applyTObs c p t) = Pipe.applyTObs c (erase s p) t := by
  cases t with
  | bStart tag ok => exact erase_start c s p .motion (by simp) _
  | bWrite id ok | bStop ok => exact erase_upd s p .motion (by simp) _ (fun _ => rfl)
  | throttled | ret ok => rfl

theorem erase_tfold (c : PipeCfg) (s : PState) : ∀ (ts : List TObs) (p : Pipe F),
    erase s (ts.foldl (Pipe.applyTObs c) p) = ts.foldl (Pipe.applyTObs c) (erase s p)
  | [], _ => rfl
  | t :: ts, p => by rw [List.foldl_cons, List.foldl_cons, erase_tfold c s ts, erase_tobs]

theorem erase_motionCall (c : PipeCfg) (s : PState) (p : Pipe F) (call : Call) :
    erase s (Pipe.motionCall c p call) = Pipe.motionCall c (erase s p) call := by
  cases hthr : c.throttle with
  | false =>
    rw [motionCall_off c hthr, motionCall_off c hthr]
    cases call with
    | can => rfl
    | start => exact erase_start c s p .motion (by simp) _
    | write id | stop => exact erase_upd s p .motion (by simp) _ (fun _ => rfl)
  | true =>
    cases call with
    | can => rw [mc_can c hthr, mc_can c hthr]
    | start => rw [mc_start c hthr, mc_start c hthr, erase_tfold]; rfl
    | write id => rw [mc_write c hthr, mc_write c hthr, erase_tfold]; rfl
    | stop => rw [mc_stop c hthr, mc_stop c hthr, erase_tfold]; rfl

theorem erase_obs (c : PipeCfg) (s : PState) (p : Pipe F) (o : Obs) (ho : onSink .test o = false) :
    erase s (Pipe.applyObs c p o) = Pipe.applyObs c (erase s p) o := by
  cases o with
  | md | rs | re | panic => rfl
  | call k cl ok =>
    cases k with
    | test => exact absurd ho (by simp [onSink])
    | motion =>
      cases ok with
      | false => rw [applyObs_motion_fail, applyObs_motion_fail]
      | true => exact erase_motionCall c s p cl
    | const =>
      cases cl with
      | can => cases ok <;> rfl
      | start =>
        cases ok with
        | false => rfl
        | true => exact erase_start c s p .const (by simp) 0
      | write id | stop => cases ok <;> exact erase_upd s p .const (by simp) _ (fun _ => rfl)

theorem erase_fold (c : PipeCfg) (s : PState) : ∀ (os : List Obs) (p : Pipe F),
    erase s (os.foldl (Pipe.applyObs c) p) = (nonTest os).foldl (Pipe.applyObs c) (erase s p) := by
  intro os
  induction os with
  | nil => intro p; rfl
  | cons o os ih =>
    intro p
    rw [List.foldl_cons, ih]
    cases ho : onSink .test o with
    | false =>
      rw [show nonTest (o :: os) = o :: nonTest os by simp [nonTest, ho], List.foldl_cons, erase_obs c s p o ho]
    | true =>
      rw [show nonTest (o :: os) = nonTest os by simp [nonTest, ho]]
      congr 1
      cases o with
      | call k cl ok =>
        cases k with
        | test => exact erase_test c s p cl ok
        | motion | const => exact absurd ho (by simp [onSink])
      | md | rs | re | panic => exact absurd ho (by simp [onSink])

/-- the two pipeline states agree on everything but the test files and the processor's snapshot fields -/
def UpToTest (p p' : Pipe F) : Prop := erase p.proc p = erase p.proc p' ∧ SnapEq p.proc p'.proc

theorem upToTest_refl (p : Pipe F) : UpToTest p p := ⟨rfl, snapEq_refl _⟩

/-- which processor state is put in does not matter -/
theorem erase_proc {p p' : Pipe F} {s₀ : PState} (h : erase s₀ p = erase s₀ p') (s : PState) :
    erase s p = erase s p' :=
  congrArg (fun q : Pipe F => { q with proc := s }) h

theorem upToTest_of_fold (c : PipeCfg) (q q' : Pipe F) (obs obs' : List Obs) (hv : erase q.proc q = erase q.proc q')
    (hs : SnapEq q.proc q'.proc) (ho : nonTest obs' = nonTest obs) :
    UpToTest (obs.foldl (Pipe.applyObs c) q) (obs'.foldl (Pipe.applyObs c) q') := by
  refine ⟨?_, ?_⟩
  · rw [erase_fold, erase_fold, ho, erase_proc hv]
  · rw [(fold_proc_accepted c obs q).1, (fold_proc_accepted c obs' q').1]
    exact hs

/-- a test request in the second history only -/
theorem upToTest_req (c : PipeCfg) (p p' : Pipe F) (h : UpToTest p p') : UpToTest p (Pipe.testRequest c p') :=
  ⟨h.1, step_req_snap c.proc p.proc p'.proc h.2⟩

/-- the same socket item in both histories -/
theorem upToTest_item (c : PipeCfg) (p p' : Pipe F) (it : Socket.Item) (h : UpToTest p p') :
    UpToTest (Pipe.item c p it) (Pipe.item c p' it) := by
  obtain ⟨hv, hs⟩ := h
  cases it with
  | clear =>
    rw [PipeLemmas.item_clear, PipeLemmas.item_clear]
    obtain ⟨d1, d2⟩ := step_snap_dep c.proc p.proc p'.proc (.reset (Pipe.faults c)) hs
    have hf := upToTest_of_fold c { p with proc := (PState.stopRecording p.proc true).1 }
      { p' with proc := (PState.stopRecording p'.proc true).1 } (PState.stopRecording p.proc true).2
      (PState.stopRecording p'.proc true).2 (erase_proc hv _) d1 d2
    exact ⟨congrArg (fun q : Pipe F => { q with det := q.det.reset, resets := q.resets + 1 }) hf.1, hf.2⟩
  | frame bytes =>
    cases hres : parseItem c bytes with
    | bad y x =>
      rw [PipeLemmas.item_bad c p bytes y x hres, PipeLemmas.item_bad c p' bytes y x hres]
      obtain ⟨d1, d2⟩ := step_snap_dep c.proc p.proc p'.proc (.bad (Pipe.faults c)) hs
      have hf := upToTest_of_fold c { p with proc := (PState.processBad c.proc p.proc (Pipe.faults c)).1 }
        { p' with proc := (PState.processBad c.proc p'.proc (Pipe.faults c)).1 }
        (PState.processBad c.proc p.proc (Pipe.faults c)).2 (PState.processBad c.proc p'.proc (Pipe.faults c)).2
        (erase_proc hv _) d1 d2
      exact ⟨congrArg (fun q : Pipe F => { q with badFrames := q.badFrames + 1 }) hf.1, hf.2⟩
    | ok pix tel =>
      rw [PipeLemmas.item_ok c p bytes pix tel hres, PipeLemmas.item_ok c p' bytes pix tel hres]
      simp only [verdict, PipeC15.detAfter, ← show p.det = p'.det from congrArg (·.det) hv]
      obtain ⟨d1, d2⟩ := step_snap_dep c.proc p.proc p'.proc (.frame (verdict c p pix tel) (Pipe.faults c)) hs
      exact upToTest_of_fold c _ _ _ _
        (congrArg (fun q : Pipe F => { q with
          det := PipeC15.detAfter c p pix tel, accepted := { pix := pix, tel := tel } :: q.accepted })
          (erase_proc hv _)) d1 d2

def isReqOp : PipeOp → Bool
  | .testReq => true
  | .item _ => false

/-- the history without its test requests -/
def dropReqs (gs : List GOp) : List GOp := gs.filter (fun g => !isReqOp g.op)

theorem upToTest_fold (c : PipeCfg) : ∀ (gs : List GOp) (p p' : Pipe F), UpToTest p p' →
    UpToTest ((dropReqs gs).foldl (Pipe.gop c) p) (gs.foldl (Pipe.gop c) p') := by
  intro gs
  induction gs with
  | nil => intro p p' h; exact h
  | cons g gs ih =>
    intro p p' h
    obtain ⟨w, d, o⟩ := g
    cases o with
    | testReq =>
      have e : dropReqs (⟨w, d, .testReq⟩ :: gs) = dropReqs gs := rfl
      rw [e, List.foldl_cons]
      exact ih _ _ (upToTest_req (withGates c ⟨w, d, .testReq⟩) p p' h)
    | item it =>
      have e : dropReqs (⟨w, d, .item it⟩ :: gs) = ⟨w, d, .item it⟩ :: dropReqs gs := rfl
      rw [e, List.foldl_cons, List.foldl_cons]
      exact ih _ _ (upToTest_item (withGates c ⟨w, d, .item it⟩) p p' it h)

/-- **the history without its test requests ends in the same state**, up to the test files and the snapshot
fields of the processor -/
theorem upToTest_runG (c : PipeCfg) (gs : List GOp) : UpToTest (runG F c (dropReqs gs)) (runG F c gs) :=
  upToTest_fold c gs _ _ (upToTest_refl _)

/-- states that agree up to the test files have the same files of every kind but test — as full `RecFile`s -/
theorem erase_kf {p p' : Pipe F} {s : PState} (h : erase s p = erase s p') (k : FileKind) (hk : k ≠ .test) :
    kf k p.files = kf k p'.files := by
  rw [← kf_nt k hk p.files, ← kf_nt k hk p'.files]
  exact congrArg (fun q : Pipe F => kf k q.files) h

theorem erase_filesOfKind {p p' : Pipe F} {s : PState} (h : erase s p = erase s p') (k : FileKind) (hk : k ≠ .test) :
    filesOfKind k p = filesOfKind k p' := by
  rw [filesOfKind_eq, filesOfKind_eq, erase_kf h k hk]

end TR.PipeC17
