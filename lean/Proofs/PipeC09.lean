import Proofs.PipeC04
import Proofs.DetC09
/-!
# Proofs.PipeC09 — the detector inside the composed pipeline (C09 end to end)

`Proofs.DetC09` proves C09 for the detector alone (`Det.outputs` over `DEv` lists).  Here the detector is the
`det` field of the composed pipeline of `TR.Pipeline`, driven by whole socket histories with changing gates
(`Proofs.PipeSim`: `GOp`, `Pipe.gop`, `runG`, `evsFrom`, `evsG`).

* the detector event a pipeline step induces (`devOf`, `devsG`): an accepted frame with the FFC flag computed
  from its telemetry, a `Reset` for the `clear` marker, nothing for a rejected frame or a test request; the
  detector field of the pipeline is `Det.after` of those events (`fold_det`, `runG_det`);
* the verdicts carried by the induced processor events are `Det.outputs` of those events (`verdictsOf_evsFrom`);
  two pipeline states whose detectors give the same outputs induce the SAME processor events (`evsFrom_congr`);
* the first verdict after a reset, whenever it comes, is "no motion" (`fresh_head`; `Fresh`, `Wf` and the two
  flags that survive `Det.reset`, `flagsAfter`, are in `Proofs.Det` / `Proofs.DetC09`);
* the processor on equal events from two states that agree on the start-relevant fields (`CoreQ`, `proc_sim`):
  recordings start and stop at the same events;
* which steps of a history start a motion file (`startFlags`) in terms of the processor run.
-/
namespace TR.PipeC09
open TR TR.C01Spec TR.PipeC04 TR.PipeLemmas TR.PipeSim

variable {F : FloatOps}

/-- `isAffectedByFFC` of an accepted frame: computed from the frame's own telemetry (ms → ns) -/
def ffcOf (c : PipeCfg) (tel : Parse.Telemetry) : Bool :=
  Det.affectedBy c.det ((tel.timeOnMs : Int) * 1000000) ((tel.lastFFCMs : Int) * 1000000)

/-- the detector event one pipeline step induces (the gates play no role) -/
def devOfOp (c : PipeCfg) : PipeOp → Option DEv
  | .testReq => none
  | .item .clear => some .reset
  | .item (.frame bytes) =>
    match parseItem c bytes with
    | .bad _ _ => none
    | .ok pix tel => some (.frame pix (ffcOf c tel))

def devOf (c : PipeCfg) (g : GOp) : Option DEv := devOfOp c g.op

/-- the detector events of a list of steps -/
def devsG (c : PipeCfg) (gs : List GOp) : List DEv := gs.filterMap (devOf c)

theorem devsG_nil (c : PipeCfg) : devsG c [] = [] := rfl

theorem devsG_cons (c : PipeCfg) (g : GOp) (gs : List GOp) :
    devsG c (g :: gs) = (devOf c g).toList ++ devsG c gs := by
  unfold devsG
  rw [List.filterMap_cons]
  cases devOf c g <;> rfl

theorem devsG_append (c : PipeCfg) (a b : List GOp) : devsG c (a ++ b) = devsG c a ++ devsG c b := by
  simp only [devsG, List.filterMap_append]

theorem devOf_clear (c : PipeCfg) (g : GOp) (h : g.op = .item .clear) : devOf c g = some .reset := by
  unfold devOf; rw [h]; rfl

theorem devOf_testReq (c : PipeCfg) (g : GOp) (h : g.op = .testReq) : devOf c g = none := by
  unfold devOf; rw [h]; rfl

theorem devOf_bad (c : PipeCfg) (g : GOp) (bytes : List Nat) (y x : Nat) (h : g.op = .item (.frame bytes))
    (hp : parseItem c bytes = .bad y x) : devOf c g = none := by
  unfold devOf; rw [h]; simp only [devOfOp, hp]

theorem devOf_ok (c : PipeCfg) (g : GOp) (bytes : List Nat) (pix : Frame) (tel : Parse.Telemetry)
    (h : g.op = .item (.frame bytes)) (hp : parseItem c bytes = .ok pix tel) :
    devOf c g = some (.frame pix (ffcOf c tel)) := by
  unfold devOf; rw [h]; simp only [devOfOp, hp]

theorem outputs_append (c : DCfg) : ∀ (a b : List DEv) (d : Det F),
    Det.outputs c d (a ++ b) = Det.outputs c d a ++ Det.outputs c (Det.after c d a) b :=
  fun a b d => Det.outputs_append c d a b

/-- one step of the pipeline moves the detector by the induced detector event (or not at all) -/
theorem gop_det (c : PipeCfg) (p : Pipe F) (g : GOp) :
    (Pipe.gop c p g).det = Det.after c.det p.det (devOf c g).toList := by
  obtain ⟨w, d, o⟩ := g
  cases o with
  | testReq => rfl
  | item it =>
    show (Pipe.item _ p it).det = _
    cases it with
    | clear =>
      rw [item_clear]
      exact congrArg Det.reset (applyObs_fold_others _ _ _).1
    | frame bytes =>
      cases hres : parseItem c bytes with
      | bad y x =>
        rw [devOf_bad c _ bytes y x rfl hres, item_bad (withGates c ⟨w, d, .item (.frame bytes)⟩) p bytes y x hres]
        exact (applyObs_fold_others _ _ _).1
      | ok pix tel =>
        rw [devOf_ok c _ bytes pix tel rfl hres, item_ok (withGates c ⟨w, d, .item (.frame bytes)⟩) p bytes pix tel hres]
        exact (applyObs_fold_others _ _ _).1

theorem fold_det (c : PipeCfg) : ∀ (gs : List GOp) (p : Pipe F),
    (gs.foldl (Pipe.gop c) p).det = Det.after c.det p.det (devsG c gs) := by
  intro gs
  induction gs with
  | nil => intro p; rfl
  | cons g gs ih =>
    intro p
    rw [List.foldl_cons, ih, gop_det, devsG_cons, Det.after_append]

/-- **the detector of the pipeline after a history is the detector model after the induced events** -/
theorem runG_det (c : PipeCfg) (gs : List GOp) :
    (runG F c gs).det = Det.after c.det (Det.init F c.det) (devsG c gs) :=
  fold_det c gs (Pipe.init F c)

/-- the detector verdicts carried by a list of processor events: the motion bits of its frame events -/
def verdictsOf (evs : List Ev) : List Bool := (evs.filter Ev.isFrame).map Ev.motion

theorem verdictsOf_nil : verdictsOf [] = [] := rfl

theorem verdictsOf_cons_nonframe (e : Ev) (es : List Ev) (h : e.isFrame = false) :
    verdictsOf (e :: es) = verdictsOf es := by
  simp only [verdictsOf, List.filter_cons, h, Bool.false_eq_true, if_false]

theorem verdictsOf_cons_frame (m : Bool) (f : Faults) (es : List Ev) :
    verdictsOf (.frame m f :: es) = m :: verdictsOf es := by
  simp only [verdictsOf, List.filter_cons, Ev.isFrame, if_true, List.map_cons, Ev.motion]

theorem verdictsOf_append (a b : List Ev) : verdictsOf (a ++ b) = verdictsOf a ++ verdictsOf b := by
  simp only [verdictsOf, List.filter_append, List.map_append]

/-- **one step, uniformly in the pipeline state**: which processor event it induces.  An event that is not an
accepted frame does not depend on the state and the detector model puts out nothing on the step; in an accepted
frame only the verdict depends on the state, and only through `det`.  (What the step does to `det`: `gop_det`.) -/
theorem step_kind (c : PipeCfg) (g : GOp) :
    (∃ e : Ev, e.isFrame = false ∧ (∀ d : Det F, Det.outputs c.det d (devOf c g).toList = []) ∧
      ∀ q : Pipe F, Pipe.evOf c q g = e) ∨
    (∃ pix ffc, devOf c g = some (.frame pix ffc) ∧
      ∀ q : Pipe F, Pipe.evOf c q g = .frame (Det.detect c.det q.det pix ffc).2 (gfaults g)) := by
  obtain ⟨w, d, o⟩ := g
  cases o with
  | testReq => exact Or.inl ⟨.testReq, rfl, fun _ => rfl, fun _ => rfl⟩
  | item it =>
    cases it with
    | clear => exact Or.inl ⟨.reset (gfaults ⟨w, d, .item .clear⟩), rfl, fun _ => rfl, fun _ => rfl⟩
    | frame bytes =>
      cases hres : parseItem c bytes with
      | bad y x =>
        refine Or.inl ⟨.bad (gfaults ⟨w, d, .item (.frame bytes)⟩), rfl, fun _ => ?_, fun q => ?_⟩
        · rw [devOf_bad c _ bytes y x rfl hres]; rfl
        · exact evOfOp_bad (withGates c ⟨w, d, .item (.frame bytes)⟩) q bytes y x hres
      | ok pix tel =>
        exact Or.inr ⟨pix, ffcOf c tel, devOf_ok c _ bytes pix tel rfl hres, fun q =>
          evOfOp_ok (withGates c ⟨w, d, .item (.frame bytes)⟩) q bytes pix tel hres⟩

/-- **the verdicts in the processor events a list of steps induces are the detector model's outputs on the
induced detector events** -/
theorem verdictsOf_evsFrom (c : PipeCfg) : ∀ (gs : List GOp) (p : Pipe F),
    verdictsOf (evsFrom c p gs) = Det.outputs c.det p.det (devsG c gs) := by
  intro gs
  induction gs with
  | nil => intro p; rfl
  | cons g gs ih =>
    intro p
    rw [devsG_cons, Det.outputs_append, ← gop_det c p g, ← ih]
    simp only [evsFrom]
    rcases step_kind (F := F) c g with ⟨e, he, ho, hq⟩ | ⟨pix, ffc, hd, hq⟩
    · rw [hq p, verdictsOf_cons_nonframe e _ he, ho]; rfl
    · rw [hq p, verdictsOf_cons_frame, hd]; rfl

theorem verdictsOf_evsG (c : PipeCfg) (gs : List GOp) :
    verdictsOf (evsG F c gs) = Det.outputs c.det (Det.init F c.det) (devsG c gs) :=
  verdictsOf_evsFrom c gs (Pipe.init F c)

/-- two pipeline states whose detectors give the same verdicts on the detector events of `gs` induce the same
processor events on `gs` (same steps, same gates) -/
theorem evsFrom_congr (c : PipeCfg) : ∀ (gs : List GOp) (p q : Pipe F),
    Det.outputs c.det p.det (devsG c gs) = Det.outputs c.det q.det (devsG c gs) →
    evsFrom c p gs = evsFrom c q gs := by
  intro gs
  induction gs with
  | nil => intro p q _; rfl
  | cons g gs ih =>
    intro p q h
    rw [devsG_cons, Det.outputs_append, Det.outputs_append, ← gop_det c p g, ← gop_det c q g] at h
    simp only [evsFrom]
    rcases step_kind (F := F) c g with ⟨e, _, ho, hq⟩ | ⟨pix, ffc, hd, hq⟩
    · -- not an accepted frame: the same event from both states, and no output
      rw [ho, ho] at h
      rw [hq p, hq q, ih _ _ h]
    · -- an accepted frame: the two verdicts are the heads of the outputs
      rw [hd] at h
      obtain ⟨h1, h2⟩ := List.cons.inj
        (h : (Det.detect c.det p.det pix ffc).2 :: _ = (Det.detect c.det q.det pix ffc).2 :: _)
      rw [hq p, hq q, h1, ih _ _ h2]

section reset
open TR.P09 TR.Det

/-- the first verdict after a reset, whenever it comes, is "no motion" -/
theorem fresh_head (c : DCfg) (hc : 1 ≤ c.countThresh) : ∀ (evs : List DEv) (d : Det F), Wf c d → Fresh d →
    ∀ m, (Det.outputs c d evs).head? = some m → m = false := by
  intro evs
  induction evs with
  | nil => intro d _ _ m h; cases h
  | cons e es ih =>
    intro d w fr m h
    cases e with
    | frame f ffc =>
      simp only [Det.outputs, Det.stepEv, List.head?_cons, Option.some.injEq] at h
      rw [← h]
      exact fresh_quiet c hc d f ffc fr
    | reset =>
      simp only [Det.outputs, Det.stepEv] at h
      exact ih _ (wf_reset c d w) (fresh_reset c d w) m h

end reset

/-- the first verdict in an event list, if there is one, is "no motion" -/
def FirstQuiet (es : List Ev) : Prop := ∀ m, (verdictsOf es).head? = some m → m = false

/-- two processor states agree on what decides where recordings start and stop from here on, given the events
to come: the `triggered` counters may differ if `trig ≤ 1` (the counter is then irrelevant) or if the next accepted
frame carries no motion (it zeroes both) -/
structure CoreQ (c : PCfg) (s t : PState) (es : List Ev) : Prop where
  r : s.isRec = t.isRec
  fw : s.framesWritten = t.framesWritten
  wu : s.writeUntil = t.writeUntil
  tg : c.trig ≤ 1 ∨ s.triggered = t.triggered ∨ FirstQuiet es

/-- an event that is not an accepted frame leaves the condition on the `triggered` counters as it is, if they
stay or are both zeroed -/
theorem tg_nonframe {c : PCfg} {s t s' t' : PState} {e : Ev} {es : List Ev} (he : e.isFrame = false)
    (h : c.trig ≤ 1 ∨ s.triggered = t.triggered ∨ FirstQuiet (e :: es))
    (hs : s'.triggered = t'.triggered ∨ (s'.triggered = s.triggered ∧ t'.triggered = t.triggered)) :
    c.trig ≤ 1 ∨ s'.triggered = t'.triggered ∨ FirstQuiet es := by
  rcases hs with hs | ⟨h1, h2⟩
  · exact Or.inr (Or.inl hs)
  · rcases h with h | h | h
    · exact Or.inl h
    · exact Or.inr (Or.inl (by rw [h1, h2, h]))
    · exact Or.inr (Or.inr (by rw [FirstQuiet, verdictsOf_cons_nonframe _ _ he] at h; exact h))

theorem coreq_step (c : PCfg) (s t : PState) (e : Ev) (es : List Ev) (gs : Good c s) (gt : Good c t)
    (he : e.faults.mWriteFail = 0) (h : CoreQ c s t (e :: es)) :
    CoreQ c (PState.step c s e).1 (PState.step c t e).1 es ∧
    hasStartOk (PState.step c s e).2 = hasStartOk (PState.step c t e).2 ∧
    hasStop (PState.step c s e).2 = hasStop (PState.step c t e).2 := by
  cases e with
  | frame m f =>
    -- the step reads the state through `starts`, `rec1`, `wu1`, `stops` only (`P03.frame_summary`), and on `s`
    -- and `t` these agree (`summary_congr`) once the start attempts do
    obtain ⟨sStart, sStop, sRec, sTrig, sFw, sWu⟩ := P03.frame_summary c s m f
    obtain ⟨tStart, tStop, tRec, tTrig, tFw, tWu⟩ := P03.frame_summary c t m f
    have hquiet : FirstQuiet (.frame m f :: es) → m = false := fun hq => hq m (by rw [verdictsOf_cons_frame]; rfl)
    -- an attempt reads the counter on a motion frame only, and only in `trig ≤ triggered + 1`
    have hatt : P03.attempt c (P03.pre s) m = P03.attempt c (P03.pre t) m := by
      show (!s.isRec && m && decide (c.trig ≤ s.triggered + 1)) = (!t.isRec && m && decide (c.trig ≤ t.triggered + 1))
      rw [h.r]
      rcases h.tg with h1 | h1 | h1
      · rw [decide_eq_true (show c.trig ≤ s.triggered + 1 by omega),
          decide_eq_true (show c.trig ≤ t.triggered + 1 by omega)]
      · rw [h1]
      · simp only [hquiet h1, Bool.and_false, Bool.false_and]
    obtain ⟨eStarts, eRec1, eWu1, eStops⟩ := summary_congr c (P03.pre s) (P03.pre t) m f h.r h.fw h.wu hatt
      ((preRun_good gs he).trans (preRun_good gt he).symm)
    refine ⟨⟨?_, ?_, ?_, ?_⟩, sStart.trans (eStarts.trans tStart.symm), sStop.trans (eStops.trans tStop.symm)⟩
    · rw [sRec, tRec, eRec1, eStops]
    · rw [sFw, tFw, eRec1, eStops, h.fw]
    · rw [sWu, tWu, eRec1, eStops, eWu1, h.wu]
    · -- equal counters stay equal, and a frame without motion zeroes both
      rw [sTrig, tTrig, eStops]
      rcases h.tg with h1 | h1 | h1
      · exact Or.inl h1
      · exact Or.inr (Or.inl (by rw [h1]))
      · exact Or.inr (Or.inl (by simp only [hquiet h1, Bool.false_eq_true, if_false]))
  | bad f =>
    rw [step_bad, step_bad, ← h.r]
    cases s.isRec
    · exact ⟨⟨rfl, h.fw, h.wu, tg_nonframe rfl h.tg (Or.inr ⟨rfl, rfl⟩)⟩, rfl, rfl⟩
    · exact ⟨⟨rfl, rfl, rfl, Or.inr (Or.inl rfl)⟩, rfl, rfl⟩
  | reset f =>
    rw [step_reset, step_reset, ← h.r]
    cases s.isRec
    · exact ⟨⟨h.r, h.fw, h.wu, tg_nonframe rfl h.tg (Or.inr ⟨rfl, rfl⟩)⟩, rfl, rfl⟩
    · exact ⟨⟨rfl, rfl, rfl, Or.inr (Or.inl rfl)⟩, rfl, rfl⟩
  | testReq => exact ⟨⟨h.r, h.fw, h.wu, tg_nonframe rfl h.tg (Or.inr ⟨rfl, rfl⟩)⟩, rfl, rfl⟩

/-- **the same events from two such states: recordings start and stop at the same events** -/
theorem proc_sim (c : PCfg) : ∀ (es : List Ev) (s t : PState), Good c s → Good c t → (∀ e ∈ es, PipeEv e) →
    CoreQ c s t es → (PState.run c s es).map hasStartOk = (PState.run c t es).map hasStartOk ∧
      (PState.run c s es).map hasStop = (PState.run c t es).map hasStop := by
  intro es
  induction es with
  | nil => intro s t _ _ _ _; exact ⟨rfl, rfl⟩
  | cons e es ih =>
    intro s t gs gt hev h
    obtain ⟨h', ho, hp⟩ := coreq_step c s t e es gs gt (hev e (List.mem_cons_self ..)).1 h
    obtain ⟨i1, i2⟩ := ih _ _ (good_step c s e gs) (good_step c t e gt) (fun x hx => hev x (List.mem_cons_of_mem _ hx)) h'
    simp only [PState.run, List.map_cons]
    rw [ho, hp, i1, i2]
    exact ⟨rfl, rfl⟩

/-- for each step of `gs`, run from pipeline state `p`: did the step start a motion file? -/
def startFlags (c : PipeCfg) : Pipe F → List GOp → List Bool
  | _, [] => []
  | p, g :: gs => decide (motionStarts (Pipe.gop c p g) > motionStarts p) :: startFlags c (Pipe.gop c p g) gs

theorem startFlags_length (c : PipeCfg) : ∀ (gs : List GOp) (p : Pipe F), (startFlags c p gs).length = gs.length := by
  intro gs
  induction gs with
  | nil => intro p; rfl
  | cons g gs ih => intro p; simp only [startFlags, List.length_cons, ih]

/-- throttle off: a step starts a motion file iff the processor step on the induced event makes a successful
`StartRecording` call on the motion sink -/
theorem startFlags_eq (c : PipeCfg) (hK : 0 < c.proc.K) (hthr : c.throttle = false) :
    ∀ (gs : List GOp) (p : Pipe F) (evs : List Ev), Sim c p evs →
      startFlags c p gs = (PState.run c.proc p.proc (evsFrom c p gs)).map hasStartOk := by
  intro gs
  induction gs with
  | nil => intro p evs _; rfl
  | cons g gs ih =>
    intro p evs h
    have hs := motionStarts_gop c hK hthr p evs g h
    rw [step_startCount_eq] at hs
    simp only [startFlags, evsFrom, PState.run, List.map_cons]
    rw [ih _ _ (sim_gop c hK p evs g h), gop_proc c p g]
    congr 1
    rw [hs]
    cases hasStartOk (PState.step c.proc p.proc (Pipe.evOf c p g)).2 <;> simp

theorem motionStarts_fold (c : PipeCfg) (hK : 0 < c.proc.K) (hthr : c.throttle = false) :
    ∀ (gs : List GOp) (p : Pipe F) (evs : List Ev), Sim c p evs →
      motionStarts (gs.foldl (Pipe.gop c) p) = motionStarts p + (startFlags c p gs).count true := by
  intro gs
  induction gs with
  | nil => intro p evs _; rfl
  | cons g gs ih =>
    intro p evs h
    have hs := motionStarts_gop c hK hthr p evs g h
    rw [step_startCount_eq] at hs
    rw [List.foldl_cons, ih _ _ (sim_gop c hK p evs g h)]
    simp only [startFlags, List.count_cons]
    rw [hs]
    split <;> simp <;> omega

/-- the processor state of every reachable pipeline state satisfies the ring invariant and `Idle0` -/
theorem sim_good (c : PipeCfg) (hK : 0 < c.proc.K) (p : Pipe F) (evs : List Ev) (h : Sim c p evs) :
    Good c.proc p.proc ∧ Idle0 p.proc := by
  rw [h.proc]
  exact ⟨after_invariant c.proc (good_step c.proc) evs _ (good_init c.proc hK),
    after_invariant c.proc (idle0_step c.proc) evs _ fun _ => ⟨rfl, rfl⟩⟩

theorem evsFrom_pipeEv (c : PipeCfg) (gs : List GOp) (p : Pipe F) : ∀ e ∈ evsFrom c p gs, PipeEv e :=
  evsFrom_all c PipeEv (fun p g => evOfOp_pipeEv (withGates c g) p g.op) gs p

end TR.PipeC09
