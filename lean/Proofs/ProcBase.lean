import TR.Processor
import Proofs.Ring
/-!
# Proofs.ProcBase — the processor's frame ring in terms of accepted-frame indices

`RBase K ring n mark`: the ring has capacity `K`, `n` frames have been accepted (so the slot
being filled has global index `n`), every completed global index `k < n` holds the id `k`,
and the last `SetAsOldest` mark sits at global index `mark`.
Under it `GetHistory` (after the current frame `n` has been parsed into the current slot)
is the id list `lo … n` with `lo = max mark (n+1−K)`; in particular it never panics.
-/
namespace TR

def RBase (K : Nat) (ring : Ring Nat) (n mark : Nat) : Prop :=
  ∃ g : Ghost Nat, RInv ring g ∧ ring.size = K ∧ g.n = n ∧ (∀ k, k < n → g.vals k = k) ∧
    g.mark = mark ∧ mark ≤ n

theorem rbase_init (K : Nat) (hK : 0 < K) : RBase K (Ring.new K 0) 0 0 :=
  ⟨{ n := 0, mark := 0, vals := fun _ => 0 }, inv_new K 0 hK, rfl, rfl, by intro k hk; omega, rfl, Nat.le_refl _⟩

/-- first retained id -/
def loOf (K n mark : Nat) : Nat := max mark (n + 1 - K)

theorem loOf_le (K n mark : Nat) (hK : 0 < K) (hm : mark ≤ n) : loOf K n mark ≤ n := by
  unfold loOf; omega

/-- `GetHistory` once frame `n` has been parsed into the current slot -/
theorem rbase_history {K : Nat} {ring : Ring Nat} {n mark : Nat} (h : RBase K ring n mark) :
    (ring.write n).history = some (List.range' (loOf K n mark) (n + 1 - loOf K n mark)) := by
  obtain ⟨g, hr, hsz, hn, hv, hm, hle⟩ := h
  have hlo : g.lo ring.size = loOf K n mark := by unfold Ghost.lo loOf; rw [hn, hm, hsz]
  have hle' := loOf_le K n mark (hsz ▸ hr.1) hle
  have hid : ∀ k ∈ List.range' (loOf K n mark) (n - loOf K n mark), g.vals k = id k := fun k hk =>
    hv k (by have := (List.mem_range'_1.mp hk).2; omega)
  rw [history_write ring g n hr, hlo, hn, List.map_congr_left hid, List.map_id,
    Nat.sub_add_comm hle', List.range'_1_concat, Nat.add_sub_cancel' hle']

/-- writing anything into the current slot keeps the base invariant (completed frames untouched) -/
theorem rbase_write {K : Nat} {ring : Ring Nat} {n mark : Nat} (v : Nat) (h : RBase K ring n mark) :
    RBase K (ring.write v) n mark := by
  obtain ⟨g, hr, hsz, hn, hv, hm, hle⟩ := h
  refine ⟨g.write v, inv_write ring g v hr, hsz, hn, ?_, hm, hle⟩
  intro k hk
  simp only [Ghost.write, hn]
  have : k ≠ n := by omega
  simp [this, hv k hk]

/-- accepting frame `n`: it was written into the current slot, then `Move` -/
theorem rbase_accept {K : Nat} {ring : Ring Nat} {n mark : Nat} (h : RBase K ring n mark) :
    RBase K (ring.write n).move (n + 1) mark := by
  obtain ⟨g, hr, hsz, hn, hv, hm, hle⟩ := h
  refine ⟨_, inv_move _ _ (inv_write ring g n hr), hsz, congrArg (· + 1) hn, ?_, hm, by omega⟩
  intro k hk
  simp only [Ghost.move, Ghost.write, hn]
  have h1 : k ≠ n + 1 := by omega
  simp only [h1, if_false]
  by_cases h2 : k = n
  · simp [h2]
  · simp only [h2, if_false]; exact hv k (by omega)

/-- `SetAsOldest`: the mark moves to the slot being filled -/
theorem rbase_mark {K : Nat} {ring : Ring Nat} {n mark : Nat} (h : RBase K ring n mark) :
    RBase K ring.setAsOldest n n := by
  obtain ⟨g, hr, hsz, hn, hv, hm, hle⟩ := h
  exact ⟨g.markNow, inv_mark ring g hr, hsz, hn, hv, hn, Nat.le_refl _⟩

theorem rbase_size {K : Nat} {ring : Ring Nat} {n mark : Nat} (h : RBase K ring n mark) : 0 < K := by
  obtain ⟨g, hr, hsz, _⟩ := h
  rw [← hsz]; exact hr.1

theorem rbase_mark_le {K : Nat} {ring : Ring Nat} {n mark : Nat} (h : RBase K ring n mark) : mark ≤ n := by
  obtain ⟨g, _, _, _, _, _, hle⟩ := h; exact hle

end TR
