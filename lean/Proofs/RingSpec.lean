import Proofs.Ring
/-!
# Proofs.RingSpec — the readable specification of the frame ring and its refinement

`Spec` is the simplest possible description of what the ring is for: the list of frames
completed since creation / reset, and the position of the last "set as oldest" mark.
The client protocol of the code base is: fill the current frame, then `Move`
(`POp.push`); `SetAsOldest` (`POp.mark`); `Reset` (`POp.reset`).

`SRel` ties the ghost of `Proofs.Ring` to the spec; `reach` shows it along every protocol run, and
`history_spec`, `oldest_spec`, `recent_spec`, `recent_spec_size_one` read the ghost-level
characterisations of `Proofs.Ring` in terms of the spec.
-/
namespace TR

structure Spec (α : Type) where
  done : List α        -- completed frames since creation / reset, oldest first
  mark : Nat           -- number of completed frames when the mark was last set

inductive POp (α : Type) where
  | push (v : α)       -- write `v` into the current frame, then Move
  | mark               -- SetAsOldest
  | reset              -- Reset

namespace Spec
variable {α : Type}
def init : Spec α := { done := [], mark := 0 }
def apply (s : Spec α) : POp α → Spec α
  | .push v => { s with done := s.done ++ [v] }
  | .mark => { s with mark := s.done.length }
  | .reset => init
/-- first retained global index -/
def lo (s : Spec α) (size : Nat) : Nat := max s.mark (s.done.length + 1 - size)
/-- what `GetHistory` must return when the current frame holds `cur` -/
def history (s : Spec α) (size : Nat) (cur : α) : List α := s.done.drop (s.lo size) ++ [cur]
end Spec

def POp.toOps {α : Type} : POp α → List (RingOp α)
  | .push v => [.write v, .move]
  | .mark => [.mark]
  | .reset => [.reset]

def Ring.applyP {α : Type} (r : Ring α) (op : POp α) : Ring α := op.toOps.foldl Ring.apply r

variable {α : Type}

def SRel (s : Spec α) (g : Ghost α) : Prop :=
  g.n = s.done.length ∧ g.mark = s.mark ∧ ∀ k (h : k < s.done.length), g.vals k = s.done[k]

theorem SRel.lo_eq {s : Spec α} {g : Ghost α} (h : SRel s g) (size : Nat) : g.lo size = s.lo size := by
  unfold Ghost.lo Spec.lo; rw [h.1, h.2.1]

theorem SRel.map_vals {s : Spec α} {g : Ghost α} (h : SRel s g) (a : Nat) :
    (List.range' a (s.done.length - a)).map g.vals = s.done.drop a := by
  apply List.ext_getElem
  · rw [List.length_map, List.length_range', List.length_drop]
  · intro j h1 h2
    rw [List.length_map, List.length_range'] at h1
    rw [List.getElem_map, List.getElem_range', Nat.one_mul, List.getElem_drop]
    exact h.2.2 (a + j) (by omega)

theorem srel_init (b : α) : SRel (Spec.init) ({ n := 0, mark := 0, vals := fun _ => b } : Ghost α) :=
  ⟨rfl, rfl, fun _ h => absurd h (Nat.not_lt_zero _)⟩

theorem srel_apply (r : Ring α) (g : Ghost α) (s : Spec α) (op : POp α) (h : SRel s g) :
    SRel (s.apply op) (runOps (r, g) op.toOps).2 := by
  obtain ⟨hn, hm, hv⟩ := h
  cases op with
  | push v =>
    refine ⟨?_, hm, ?_⟩
    · show g.n + 1 = (s.done ++ [v]).length
      rw [List.length_append, hn]; rfl
    · show ∀ k (_ : k < (s.done ++ [v]).length),
        (if k = g.n + 1 then _ else if k = g.n then v else g.vals k) = (s.done ++ [v])[k]
      intro k hk
      rw [List.length_append, List.length_singleton] at hk
      rw [if_neg (by omega)]
      by_cases hk2 : k = g.n
      · subst hk2; simp [hn]
      · have : k < s.done.length := by omega
        rw [if_neg hk2, hv k this, List.getElem_append_left this]
  | mark => exact ⟨hn, hn, hv⟩
  | reset => exact srel_init _

theorem size_foldl_applyP (ops : List (POp α)) (r : Ring α) :
    (ops.foldl Ring.applyP r).size = r.size := by
  induction ops generalizing r with
  | nil => rfl
  | cons op ops ih => rw [List.foldl_cons, ih]; exact size_foldl_apply _ _

/-- after every run of the protocol one ghost serves both sides: the ring refines it and the list
specification describes it -/
theorem reach (size : Nat) (hs : 0 < size) (blank : α) (ops : List (POp α)) :
    ∃ g : Ghost α, RInv (ops.foldl Ring.applyP (Ring.new size blank)) g ∧
      SRel (ops.foldl Spec.apply Spec.init) g := by
  suffices H : ∀ (ops : List (POp α)) (r : Ring α) (g : Ghost α) (s : Spec α), RInv r g → SRel s g →
      ∃ g', RInv (ops.foldl Ring.applyP r) g' ∧ SRel (ops.foldl Spec.apply s) g' from
    H ops _ _ _ (inv_new size blank hs) (srel_init blank)
  intro ops
  induction ops with
  | nil => intro r g s hr hsr; exact ⟨g, hr, hsr⟩
  | cons op ops ih =>
    intro r g s hr hsr
    have h1 := inv_runOps op.toOps r g hr
    rw [runOps_ring] at h1
    exact ih _ _ _ h1 (srel_apply r g s op hsr)

theorem history_spec (r : Ring α) (g : Ghost α) (s : Spec α) (cur : α)
    (hr : RInv r g) (hsr : SRel s g) :
    (r.write cur).history = some (s.history r.size cur) := by
  rw [history_write r g cur hr, hsr.lo_eq, hsr.1, hsr.map_vals]; rfl

theorem oldest_spec (r : Ring α) (g : Ghost α) (s : Spec α) (cur : α)
    (hr : RInv r g) (hsr : SRel s g) :
    some (r.write cur).oldestFrame = (s.history r.size cur).head? := by
  have hw := inv_write r g cur hr
  have hh := history_eq _ _ hw
  rw [history_spec r g s cur hr hsr, Option.some.injEq] at hh
  have hlo := lo_le_n _ (r.write cur).size hw.2.2.2.1 hw.1
  rw [hh, oldestFrame_eq _ _ hw, Nat.sub_add_comm hlo, List.range'_succ, List.map_cons, List.head?_cons]

theorem recent_spec (r : Ring α) (g : Ghost α) (s : Spec α) (hr : RInv r g) (hsr : SRel s g)
    (h2 : 2 ≤ r.size) : r.recent = s.done.getLast? := by
  rw [recent_eq r g hr h2, List.getLast?_eq_getElem?, hsr.1]
  split
  · next h0 => rw [List.eq_nil_of_length_eq_zero h0]; rfl
  · next h0 =>
    have hk : s.done.length - 1 < s.done.length := by omega
    rw [hsr.2.2 _ hk, List.getElem?_eq_getElem hk]

theorem recent_spec_size_one (r : Ring α) (g : Ghost α) (s : Spec α) (cur : α) (hr : RInv r g)
    (hsr : SRel s g) (h1 : r.size = 1) :
    (r.write cur).recent = if s.done = [] then none else some cur := by
  rw [recent_size_one _ _ (inv_write r g cur hr) h1]
  show (if g.n = 0 then none else some (if g.n = g.n then cur else g.vals g.n)) = _
  rw [if_pos rfl, hsr.1]
  by_cases h0 : s.done = []
  · rw [h0]; rfl
  · rw [if_neg h0, if_neg (fun h => h0 (List.eq_nil_of_length_eq_zero h))]

end TR
