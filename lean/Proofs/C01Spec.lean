import Proofs.ProcC01
/-!
# Proofs.C01Spec — what acceptance by the C01/C02 monitor means, as a plain list specification

`recordings tr` cuts the motion-sink calls of an observed trace into recordings (a fold that does not
mention the monitor `M12`).  `ascRuns_final`: if `monC01C02 K tr = []` and no step dictates a failing motion-sink
write, the invariant `AscRuns` holds of the recordings at the end — every recording is a contiguous ascending run of
ids and, across recordings, ids strictly increase (`monitor_sound` in `Props.C01Spec`) — for EVERY trace, the
model's or one recorded from the real code.
-/
namespace TR.C01Spec

structure RecAcc where
  done : List (List Nat) := []      -- closed recordings, oldest first
  cur  : Option (List Nat) := none  -- the open recording, if any

def RecAcc.obs (a : RecAcc) : Obs → RecAcc
  | .call .motion .start true => { done := a.done ++ a.cur.toList, cur := some [] }
  | .call .motion (.write id) _ => { a with cur := a.cur.map (· ++ [id]) }
  | .call .motion .stop _ => { done := a.done ++ a.cur.toList, cur := none }
  | _ => a

/-- closed recordings followed by the open one -/
def RecAcc.all (a : RecAcc) : List (List Nat) := a.done ++ a.cur.toList

/-- the accumulator after all motion-sink calls of a trace, in order -/
def recAcc (tr : List Step) : RecAcc := (tr.flatMap (·.obs)).foldl RecAcc.obs {}

/-- the motion recordings of a trace: the id lists written between a successful `StartRecording` and the
next `StopRecording` (or the next successful start, or the end of the trace), oldest first.  Writes outside
a recording are ignored here (the C12 monitor flags them). -/
def recordings (tr : List Step) : List (List Nat) := (recAcc tr).all

theorem acc_start (a : RecAcc) :
    a.obs (.call .motion .start true) = { done := a.all, cur := some [] } := rfl
theorem acc_stop (a : RecAcc) (ok : Bool) :
    a.obs (.call .motion .stop ok) = { done := a.all, cur := none } := rfl
theorem acc_write (a : RecAcc) (id : Nat) (ok : Bool) :
    a.obs (.call .motion (.write id) ok) = { a with cur := a.cur.map (· ++ [id]) } := rfl

theorem acc_write_none (a : RecAcc) (id : Nat) (ok : Bool) (h : a.cur = none) :
    a.obs (.call .motion (.write id) ok) = a := by
  obtain ⟨d, cu⟩ := a
  simp only at h
  subst h
  rfl

theorem acc_write_some (a : RecAcc) (id : Nat) (ok : Bool) (r : List Nat) (h : a.cur = some r) :
    a.obs (.call .motion (.write id) ok) = { done := a.done, cur := some (r ++ [id]) } := by
  obtain ⟨d, cu⟩ := a
  simp only at h
  subst h
  rfl

theorem all_none (a : RecAcc) (h : a.cur = none) : a.all = a.done := by
  simp [RecAcc.all, h]

theorem all_some (a : RecAcc) (r : List Nat) (h : a.cur = some r) : a.all = a.done ++ [r] := by
  simp [RecAcc.all, h]

theorem all_write (a : RecAcc) (r : List Nat) (id : Nat) :
    (RecAcc.all { done := a.done, cur := some (r ++ [id]) }) = a.done ++ [r ++ [id]] := by
  simp [RecAcc.all]

theorem all_write_flatten (a : RecAcc) (r : List Nat) (id : Nat) (hc : a.cur = some r) :
    (RecAcc.all { done := a.done, cur := some (r ++ [id]) }).flatten = a.all.flatten ++ [id] := by
  rw [all_write, all_some a r hc]
  simp

/-- closing the open recording, or opening a fresh one after it, leaves the recorded ids as they are -/
theorem all_cut_flatten (a : RecAcc) (cu : Option (List Nat)) (h : cu = none ∨ cu = some []) :
    (RecAcc.all { done := a.all, cur := cu }).flatten = a.all.flatten := by
  rcases h with rfl | rfl <;> simp [RecAcc.all]

/-- calls the accumulator ignores: everything but a successful start, a write, a stop on the motion sink -/
def accQuiet : Obs → Bool
  | .call .motion .start true => false
  | .call .motion (.write _) _ => false
  | .call .motion .stop _ => false
  | _ => true

theorem acc_quiet (a : RecAcc) (o : Obs) (h : accQuiet o = true) : a.obs o = a := by
  cases o with
  | call s cl ok =>
    cases s <;> cases cl <;> cases ok <;> first | rfl | exact absurd h (by simp [accQuiet])
  | _ => rfl

/-- the monitor ignores the same calls -/
theorem m12_quiet (K : Nat) (m : M12) (o : Obs) (h : accQuiet o = true) : M12.obs K m o = m := by
  cases o with
  | call s cl ok =>
    cases s <;> cases cl <;> cases ok <;> first | rfl | exact absurd h (by simp [accQuiet])
  | _ => rfl

theorem acc_cases (o : Obs) :
    accQuiet o = true ∨ o = .call .motion .start true ∨ (∃ id ok, o = .call .motion (.write id) ok) ∨
      ∃ ok, o = .call .motion .stop ok := by
  cases o with
  | call s cl ok =>
    cases s with
    | motion =>
      cases cl with
      | start => cases ok; exact Or.inl rfl; exact Or.inr (Or.inl rfl)
      | write id => exact Or.inr (Or.inr (Or.inl ⟨id, ok, rfl⟩))
      | stop => exact Or.inr (Or.inr (Or.inr ⟨ok, rfl⟩))
      | can => exact Or.inl rfl
    | const => exact Or.inl (by cases cl <;> rfl)
    | test => exact Or.inl (by cases cl <;> rfl)
  | _ => exact Or.inl rfl

/-- The recordings are ascending runs: each a run of consecutive ids, the ids strictly increasing across
recordings and below `nextFree`, the open one ending at `last`.  This is what an accepting, untainted monitor
state (`last`, `nextFree`) knows about the accumulator. -/
structure AscRuns (tainted : Bool) (last : Option Nat) (nextFree : Nat) (a : RecAcc) : Prop where
  taint : tainted = false
  runs : ∀ r ∈ a.done, ∃ s, r = List.range' s r.length
  sorted : a.all.flatten.Pairwise (· < ·)
  bound : ∀ id ∈ a.all.flatten, id < nextFree
  cur : ∀ r, a.cur = some r →
    (r = [] ∧ last = none) ∨ (∃ s n, r = List.range' s (n + 1) ∧ last = some (s + n) ∧ nextFree = s + n + 1)

/-- the invariant: as long as the monitor has reported nothing, `AscRuns` holds -/
def Inv (m : M12) (a : RecAcc) : Prop := m.fails = [] → AscRuns m.tainted m.last m.nextFree a

theorem AscRuns.all_runs {t : Bool} {l : Option Nat} {nf : Nat} {a : RecAcc} (h : AscRuns t l nf a) :
    ∀ r ∈ a.all, ∃ s, r = List.range' s r.length := by
  intro r hr
  simp only [RecAcc.all, List.mem_append, Option.mem_toList] at hr
  rcases hr with hr | hr
  · exact h.runs r hr
  · rcases h.cur r hr with ⟨rfl, _⟩ | ⟨s, n, rfl, _, _⟩
    · exact ⟨0, rfl⟩
    · exact ⟨s, by simp⟩

theorem inv_init : Inv {} {} := by
  intro _
  refine ⟨rfl, ?_, ?_, ?_, ?_⟩
  · intro r hr; cases hr
  · simp [RecAcc.all]
  · intro id hid; simp [RecAcc.all] at hid
  · intro r hr; cases hr

theorem inv_write (K : Nat) (m : M12) (a : RecAcc) (id : Nat) (ok : Bool) (h : Inv m a) :
    Inv (M12.obs K m (.call .motion (.write id) ok)) (a.obs (.call .motion (.write id) ok)) := by
  intro hf'
  obtain ⟨o, cu, n, last, nf, t, fails⟩ := m
  simp only [M12.obs, List.append_eq_nil_iff] at hf'
  obtain ⟨hf, hchk⟩ := hf'
  have hj := h hf
  simp only at hj
  obtain rfl : t = false := hj.taint
  simp only [Bool.false_eq_true, if_false] at hchk
  show AscRuns false (some id) (max nf (id + 1)) _
  cases hc : a.cur with
  | none =>
    rw [acc_write_none a id ok hc]
    exact ⟨rfl, hj.runs, hj.sorted, fun x hx => Nat.lt_of_lt_of_le (hj.bound x hx) (Nat.le_max_left ..),
      fun r hr => by rw [hc] at hr; cases hr⟩
  | some r =>
    rw [acc_write_some a id ok r hc]
    have hall' := all_write_flatten a r id hc
    -- the monitor's check passed: `id` is above every id so far and continues the open run
    have key : (∀ x ∈ a.all.flatten, x < id) ∧ max nf (id + 1) = id + 1 ∧
        ∃ s n, r ++ [id] = List.range' s (n + 1) ∧ id = s + n := by
      rcases hj.cur r hc with ⟨rfl, rfl⟩ | ⟨s, n, rfl, rfl, hn⟩
      · have h1 : ¬ id < nf := fun hlt => by simp [hlt] at hchk
        exact ⟨fun x hx => by have := hj.bound x hx; omega, by omega, id, 0, rfl, rfl⟩
      · have h1 : id = s + n + 1 := Decidable.byContradiction fun he => by simp [he] at hchk
        refine ⟨fun x hx => by have := hj.bound x hx; omega, by omega, s, n + 1, ?_, by omega⟩
        rw [h1, List.range'_concat (s := s) (n := n + 1)]; simp; omega
    obtain ⟨k1, k2, s, n, k3, k4⟩ := key
    refine ⟨rfl, hj.runs, ?_, ?_, ?_⟩
    · rw [hall', List.pairwise_append]
      exact ⟨hj.sorted, List.pairwise_singleton .., fun x hx y hy => List.mem_singleton.mp hy ▸ k1 x hx⟩
    · intro x hx
      rw [hall', List.mem_append, List.mem_singleton] at hx
      rcases hx with hx | hx
      · have := k1 x hx; omega
      · omega
    · intro r' hr'
      obtain rfl := Option.some.inj hr'
      exact Or.inr ⟨s, n, k3, by rw [k4], by omega⟩

theorem inv_obs (K : Nat) (m : M12) (a : RecAcc) (o : Obs) (h : Inv m a) :
    Inv (M12.obs K m o) (a.obs o) := by
  -- closing the open recording, or opening a fresh one after it, leaves the recorded ids as they are
  have cut : ∀ (cu : Option (List Nat)) (l : Option Nat), (cu = none ∨ cu = some [] ∧ l = none) → m.fails = [] →
      AscRuns m.tainted l m.nextFree { done := a.all, cur := cu } := by
    intro cu l hcu hf
    have hj := h hf
    have hflat := all_cut_flatten a cu (hcu.imp id And.left)
    refine ⟨hj.taint, hj.all_runs, hflat ▸ hj.sorted, hflat ▸ hj.bound, fun r hr => ?_⟩
    rcases hcu with rfl | ⟨rfl, rfl⟩
    · cases hr
    · exact Or.inl ⟨(Option.some.inj hr).symm, rfl⟩
  rcases acc_cases o with hq | rfl | ⟨id, ok, rfl⟩ | ⟨ok, rfl⟩
  · rw [m12_quiet K m o hq, acc_quiet a o hq]; exact h
  · exact cut (some []) none (.inr ⟨rfl, rfl⟩)
  · exact inv_write K m a id ok h
  · exact cut none m.last (.inl rfl)

theorem inv_step (K : Nat) (m : M12) (a : RecAcc) (st : Step) (hnf : st.motionWriteFault = false)
    (h : Inv m a) : Inv (M12.step K m st) (st.obs.foldl RecAcc.obs a) := by
  rw [P01.step_eq, hnf]
  have h1 : Inv (st.obs.foldl (M12.obs K) (P01.mpre m false)) (st.obs.foldl RecAcc.obs a) :=
    List.foldl_rel (r := Inv) h fun o _ m a h => inv_obs K m a o h
  split <;> exact h1

theorem recAcc_eq (tr : List Step) : recAcc tr = tr.foldl (fun a st => st.obs.foldl RecAcc.obs a) {} :=
  List.foldl_flatMap

theorem recAcc_append (tr : List Step) (st : Step) :
    recAcc (tr ++ [st]) = st.obs.foldl RecAcc.obs (recAcc tr) := by
  simp only [recAcc_eq, List.foldl_append, List.foldl_cons, List.foldl_nil]

theorem ascRuns_final (K : Nat) (tr : List Step)
    (hacc : monC01C02 K tr = []) (hnf : ∀ st ∈ tr, st.motionWriteFault = false) :
    AscRuns false (tr.foldl (M12.step K) {}).last (tr.foldl (M12.step K) {}).nextFree (recAcc tr) := by
  have h := List.foldl_rel (r := Inv) inv_init (fun st hst m a h => inv_step K m a st (hnf st hst) h) hacc
  rw [← recAcc_eq] at h
  have ht := h.taint
  rw [ht] at h
  exact h

/-- the recordings contain only ids that were written to the motion sink (no hypothesis) -/
theorem acc_ids_written (Q : Nat → Prop) : ∀ (os : List Obs) (a : RecAcc),
    (∀ id ∈ a.all.flatten, Q id) → (∀ id ok, Obs.call .motion (.write id) ok ∈ os → Q id) →
    ∀ id ∈ (os.foldl RecAcc.obs a).all.flatten, Q id := by
  intro os
  induction os with
  | nil => intro a h _; exact h
  | cons o os ih =>
    intro a h hw
    rw [List.foldl_cons]
    refine ih _ ?_ (fun id ok hm => hw id ok (List.mem_cons_of_mem _ hm))
    rcases acc_cases o with hq | rfl | ⟨id, ok, rfl⟩ | ⟨ok, rfl⟩
    · rw [acc_quiet a o hq]; exact h
    · rw [acc_start, all_cut_flatten a _ (Or.inr rfl)]; exact h
    · cases hc : a.cur with
      | none => rw [acc_write_none a id ok hc]; exact h
      | some r =>
        rw [acc_write_some a id ok r hc]
        have hall : a.all.flatten = a.done.flatten ++ r := by rw [all_some a r hc]; simp
        intro x hx
        have hx' : x ∈ a.all.flatten ∨ x = id := by
          rw [hall]; simpa [RecAcc.all, or_assoc] using hx
        rcases hx' with hx' | rfl
        · exact h x hx'
        · exact hw x ok (List.mem_cons_self ..)
    · rw [acc_stop, all_cut_flatten a _ (Or.inl rfl)]; exact h

theorem trace_no_write_fault (c : PCfg) (evs : List Ev) (s : PState)
    (hw : ∀ ev ∈ evs, ev.faults.mWriteFail = 0) :
    ∀ st ∈ PState.trace c s evs, st.motionWriteFault = false := by
  intro st hst
  obtain ⟨hev, s', ho⟩ := mem_trace c evs s st hst
  rw [show st.motionWriteFault = P03.mwf st.obs from rfl, ho]
  exact step_mwf c s' st.ev (hw _ hev)

theorem model_nextFree_le (c : PCfg) (hK : 0 < c.K) (evs : List Ev)
    (hw : ∀ ev ∈ evs, ev.faults.mWriteFail = 0) :
    ((PState.trace c (PState.init c) evs).foldl (M12.step c.K) {}).nextFree ≤
      (evs.filter Ev.isFrame).length := by
  obtain ⟨mark, hb, hrec, hnrec⟩ := (P01.pinv_trace c evs (PState.init c) {} hw (P01.pinv_init c hK)).core.marked
  have hn := after_n c evs (PState.init c)
  have h0 : (PState.init c).n = 0 := rfl
  rw [h0, Nat.zero_add] at hn
  have hle := rbase_mark_le hb
  cases hr : (PState.after c (PState.init c) evs).isRec with
  | true => rw [(hrec hr).2.2, hn]; exact Nat.le_refl _
  | false => rw [← hnrec hr, ← hn]; exact hle

end TR.C01Spec
