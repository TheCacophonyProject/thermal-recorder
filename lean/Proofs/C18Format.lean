import TR.CPTR

/-!
# C18 (format part) — helper lemmas: the CPTR encoder and decoder of `TR.CPTR` are inverse

Core library only.  The main results are `decodeFields_encode`, `decodeFrames_encode` and
`decodeFile_encodeFile`; the well-formedness facts (`headerFields_size_lt`, `encodeFile_byteList`)
say that every size byte really is a byte and that the encoded file is a list of bytes.
-/
namespace TR.C18
open TR.CPTR

/-- every element is a byte -/
def ByteList (l : List Nat) : Prop := ∀ b ∈ l, b < 256

theorem le_length (n v : Nat) : (le n v).length = n := by
  simp only [le, List.length_map, List.length_range]

theorem le_succ (n v : Nat) : le (n + 1) v = v % 256 :: le n (v / 256) := by
  simp only [le, List.range_succ_eq_map, List.map_cons, List.map_map, Nat.pow_zero, Nat.div_one]
  congr 1
  apply List.map_congr_left
  intro i _
  simp only [Function.comp, Nat.succ_eq_add_one, Nat.pow_succ', Nat.div_div_eq_div_mul]

theorem fromLe_cons (b : Nat) (bs : List Nat) : fromLe (b :: bs) = b + 256 * fromLe bs := rfl

theorem fromLe_le (n v : Nat) : fromLe (le n v) = v % 256 ^ n := by
  induction n generalizing v with
  | zero => simp only [le, List.range_zero, List.map_nil, fromLe, List.foldr_nil, Nat.pow_zero, Nat.mod_one]
  | succ n ih =>
    rw [le_succ, fromLe_cons, ih, Nat.pow_succ', Nat.mod_mul]

theorem fromLe_le_of_lt {n v : Nat} (h : v < 256 ^ n) : fromLe (le n v) = v := by
  rw [fromLe_le, Nat.mod_eq_of_lt h]

theorem le_byteList (n v : Nat) : ByteList (le n v) := by
  intro b hb
  simp only [le, List.mem_map] at hb
  obtain ⟨i, _, rfl⟩ := hb
  exact Nat.mod_lt _ (by decide)

theorem encodeFields_nil : encodeFields [] = [] := rfl

theorem encodeFields_cons (f : Field) (fs : List Field) :
    encodeFields (f :: fs) = f.data.length :: f.code :: (f.data ++ encodeFields fs) := by
  simp only [encodeFields, List.flatMap_cons, encodeField, List.cons_append]

theorem decodeFields_encode (fs : List Field) (rest : List Nat) :
    decodeFields fs.length (encodeFields fs ++ rest) = some (fs, rest) := by
  induction fs with
  | nil => simp only [List.length_nil, encodeFields_nil, List.nil_append, decodeFields]
  | cons f fs ih =>
    rw [encodeFields_cons, List.length_cons, List.cons_append, List.cons_append, List.append_assoc,
      decodeFields]
    have hlen : ¬ (f.data ++ (encodeFields fs ++ rest)).length < f.data.length := by
      rw [List.length_append]; omega
    rw [if_neg hlen, List.drop_left, ih, List.take_left]

theorem mem_strField {code : Nat} {s : List Nat} {f : Field} (hf : f ∈ strField code s) :
    f = ⟨code, s⟩ ∧ s.length ≤ 255 := by
  unfold strField at hf
  split at hf
  · exact absurd hf List.not_mem_nil
  · exact ⟨List.mem_singleton.mp hf, by omega⟩

/-- what a header field can be: a little-endian number of at most 8 bytes, the constant byte of field 'C', or one of
the three strings when it is at most 255 bytes long; the code is a byte -/
theorem mem_headerFields {h : Header} {f : Field} (hf : f ∈ headerFields h) :
    f.code < 256 ∧ ((∃ n v, n ≤ 8 ∧ f.data = le n v) ∨ f.data = [0] ∨
      (f.data.length ≤ 255 ∧ (f.data = h.model ∨ f.data = h.brand ∨ f.data = h.deviceName))) := by
  simp only [headerFields, List.mem_append, List.mem_cons, List.not_mem_nil, or_false] at hf
  rcases hf with ((((rfl | hf) | hf) | rfl | rfl | rfl | rfl) | hf) | rfl
  · exact ⟨(by decide : (84 : Nat) < 256), .inl ⟨8, _, by decide, rfl⟩⟩
  · obtain ⟨rfl, hs⟩ := mem_strField hf; exact ⟨(by decide : (69 : Nat) < 256), .inr (.inr ⟨hs, .inl rfl⟩)⟩
  · obtain ⟨rfl, hs⟩ := mem_strField hf; exact ⟨(by decide : (66 : Nat) < 256), .inr (.inr ⟨hs, .inr (.inl rfl)⟩)⟩
  · exact ⟨(by decide : (90 : Nat) < 256), .inl ⟨1, _, by decide, rfl⟩⟩
  · exact ⟨(by decide : (88 : Nat) < 256), .inl ⟨4, _, by decide, rfl⟩⟩
  · exact ⟨(by decide : (89 : Nat) < 256), .inl ⟨4, _, by decide, rfl⟩⟩
  · exact ⟨(by decide : (67 : Nat) < 256), .inr (.inl rfl)⟩
  · obtain ⟨rfl, hs⟩ := mem_strField hf; exact ⟨(by decide : (68 : Nat) < 256), .inr (.inr ⟨hs, .inr (.inr rfl)⟩)⟩
  · exact ⟨(by decide : (73 : Nat) < 256), .inl ⟨4, _, by decide, rfl⟩⟩

/-- every header field's payload fits the one-byte size prefix -/
theorem headerFields_size_lt (h : Header) : ∀ f ∈ headerFields h, f.data.length < 256 := by
  intro f hf
  rcases (mem_headerFields hf).2 with ⟨n, v, hn, e⟩ | e | ⟨hs, _⟩
  · rw [e, le_length]; omega
  · rw [e]; decide
  · omega

theorem strField_length_le (code : Nat) (s : List Nat) : (strField code s).length ≤ 1 := by
  unfold strField; split <;> simp only [List.length_nil, List.length_cons] <;> omega

/-- between 6 and 9 header fields: the count byte is a byte -/
theorem headerFields_length (h : Header) : 6 ≤ (headerFields h).length ∧ (headerFields h).length ≤ 9 := by
  have a := strField_length_le 69 h.model
  have b := strField_length_le 66 h.brand
  have c := strField_length_le 68 h.deviceName
  simp only [headerFields, List.length_append, List.length_cons, List.length_nil]
  omega

theorem encodeFrame_eq (f : List Nat) :
    encodeFrame f = 70 :: 1 :: (encodeFields [⟨102, le 4 f.length⟩] ++ f) := by
  simp only [encodeFrame, encodeFields, List.flatMap_cons, List.flatMap_nil, List.append_nil,
    List.cons_append, List.nil_append]

theorem encodeFrame_length (f : List Nat) : (encodeFrame f).length = f.length + 8 := by
  simp only [encodeFrame, encodeField, List.length_append, List.length_cons, List.length_nil, le_length]
  omega

theorem decodeFrames_encode (frames : List (List Nat)) (hf : ∀ f ∈ frames, f.length < 2 ^ 32)
    (fuel : Nat) (hfuel : (frames.flatMap encodeFrame).length < fuel) :
    decodeFrames fuel (frames.flatMap encodeFrame) = some frames := by
  induction frames generalizing fuel with
  | nil => simp only [List.flatMap_nil, decodeFrames]
  | cons f frames ih =>
    have hflen : f.length < 2 ^ 32 := hf f List.mem_cons_self
    have hf' : ∀ g ∈ frames, g.length < 2 ^ 32 := fun g hg => hf g (List.mem_cons_of_mem _ hg)
    rw [List.flatMap_cons, List.length_append, encodeFrame_length] at hfuel
    cases fuel with
    | zero => omega
    | succ fuel =>
      have hdec := decodeFields_encode [⟨102, le 4 f.length⟩] (f ++ frames.flatMap encodeFrame)
      rw [List.length_singleton] at hdec
      rw [List.flatMap_cons, encodeFrame_eq, List.cons_append, List.cons_append, List.append_assoc,
        decodeFrames, hdec]
      have hfrom : fromLe (le 4 f.length) = f.length := fromLe_le_of_lt hflen
      have hcond : ¬ ((le 4 f.length).length ≠ 4 ∨
          (f ++ frames.flatMap encodeFrame).length < f.length) := by
        rw [le_length, List.length_append]; omega
      simp only [hfrom, List.drop_left, List.take_left]
      rw [if_neg hcond, ih hf' fuel (by omega)]
      rfl

theorem encodeFile_eq (h : Header) (frames : List (List Nat)) :
    encodeFile h frames =
      67 :: 80 :: 84 :: 82 :: 2 :: 72 :: (headerFields h).length ::
        (encodeFields (headerFields h) ++ frames.flatMap encodeFrame) := by
  simp only [encodeFile, encodeHeader, magic, List.cons_append, List.nil_append]

theorem decodeFile_encodeFile (h : Header) (frames : List (List Nat))
    (hf : ∀ f ∈ frames, f.length < 2 ^ 32) :
    decodeFile (encodeFile h frames) = some (headerFields h, frames) := by
  rw [encodeFile_eq, decodeFile, decodeFields_encode]
  simp only []
  rw [decodeFrames_encode frames hf _ (Nat.lt_succ_self _)]
  rfl

theorem byteList_nil : ByteList [] := fun _ h => absurd h List.not_mem_nil

theorem byteList_cons {b : Nat} {l : List Nat} (hb : b < 256) (hl : ByteList l) : ByteList (b :: l) := by
  intro x hx
  rcases List.mem_cons.mp hx with rfl | hx
  · exact hb
  · exact hl x hx

theorem byteList_append {l₁ l₂ : List Nat} (h₁ : ByteList l₁) (h₂ : ByteList l₂) : ByteList (l₁ ++ l₂) := by
  intro x hx
  rcases List.mem_append.mp hx with hx | hx
  · exact h₁ x hx
  · exact h₂ x hx

theorem encodeFields_byteList (fs : List Field)
    (h : ∀ f ∈ fs, f.data.length < 256 ∧ f.code < 256 ∧ ByteList f.data) : ByteList (encodeFields fs) := by
  induction fs with
  | nil => exact byteList_nil
  | cons f fs ih =>
    rw [encodeFields_cons]
    obtain ⟨h1, h2, h3⟩ := h f List.mem_cons_self
    exact byteList_cons h1 (byteList_cons h2 (byteList_append h3
      (ih fun g hg => h g (List.mem_cons_of_mem _ hg))))

theorem flatMap_byteList {α : Type} (l : List α) (g : α → List Nat) (h : ∀ a ∈ l, ByteList (g a)) :
    ByteList (l.flatMap g) := by
  intro b hb
  obtain ⟨a, ha, hba⟩ := List.mem_flatMap.mp hb
  exact h a ha b hba

theorem encodeFrame_byteList (f : List Nat) (h : ByteList f) : ByteList (encodeFrame f) := by
  rw [encodeFrame_eq]
  refine byteList_cons (by decide) (byteList_cons (by decide) (byteList_append ?_ h))
  apply encodeFields_byteList
  intro g hg
  rw [List.mem_singleton] at hg
  subst hg
  refine ⟨?_, (by decide : (102 : Nat) < 256), le_byteList _ _⟩
  show (le 4 _).length < 256
  rw [le_length]; decide

theorem headerFields_wf (h : Header) (hm : ByteList h.model) (hb : ByteList h.brand)
    (hd : ByteList h.deviceName) :
    ∀ f ∈ headerFields h, f.data.length < 256 ∧ f.code < 256 ∧ ByteList f.data := by
  intro f hf
  refine ⟨headerFields_size_lt h f hf, (mem_headerFields hf).1, ?_⟩
  rcases (mem_headerFields hf).2 with ⟨n, v, _, e⟩ | e | ⟨_, e | e | e⟩ <;> rw [e]
  · exact le_byteList _ _
  · intro b hb; rw [List.mem_singleton.mp hb]; decide
  · exact hm
  · exact hb
  · exact hd

theorem encodeFile_byteList (h : Header) (frames : List (List Nat)) (hm : ByteList h.model)
    (hb : ByteList h.brand) (hd : ByteList h.deviceName) (hfr : ∀ f ∈ frames, ByteList f) :
    ByteList (encodeFile h frames) := by
  rw [encodeFile_eq]
  have hl := (headerFields_length h).2
  refine byteList_cons (by decide) (byteList_cons (by decide) (byteList_cons (by decide)
    (byteList_cons (by decide) (byteList_cons (by decide) (byteList_cons (by decide)
    (byteList_cons (by omega) (byteList_append ?_ ?_)))))))
  · exact encodeFields_byteList _ (headerFields_wf h hm hb hd)
  · exact flatMap_byteList _ _ fun f hf => encodeFrame_byteList f (hfr f hf)

/-- header used by the non-vacuity examples of `Props/C18.lean` -/
def exHeader : Header :=
  { timestampUs := 1790000000000000, model := [108, 101, 112], brand := [102], fps := 9,
    resX := 160, resY := 120, deviceName := [], deviceID := 7 }

end TR.C18
