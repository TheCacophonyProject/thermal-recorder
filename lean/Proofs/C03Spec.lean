import Proofs.ProcC03
/-!
# Proofs.C03Spec — what acceptance by the C03 monitor means, as a plain statement about recordings

`recordingsOf tr` is a reference interpreter that does not mention the monitor `M3`: it walks an observed
trace and returns, for every recording, the motion bits of the frames it received (trigger frame first)
and how it ended.  `LengthRuleRec` is a closed-form predicate on one such recording: at each of its frames
the length rule `p ≥ min maxF (L(p) - 1 + minF)` is due if and only if the recording was stopped at that
frame.

* `monC03_iff`: on EVERY trace in which no step dictates a failing motion-sink write, `monC03 minF maxF tr = []`
  iff every recording of `tr` satisfies `LengthRuleRec`.
* consequences for one recording: `rec_length_le`, `rec_stop_length_ge`, `rec_stop_length_eq`,
  `rec_other_length_lt`, and the closed form `lengthRuleRec_iff_stopPoint`.
* the same specification read position by position: `LengthRuleSeg` (the trace cut as
  `pre ++ first :: mid ++ last :: post`) and `LengthRuleAt` (indices); both say that the scan passes
  (`scan_iff_seg`, `lengthRuleAt_iff_seg`), hence `lengthRule_iff_positional`.
* facts about the model's trace: starts only on motion frames while idle, nothing on test requests,
  no restart (`model_recordings_wf`).
-/
namespace TR.C03Spec

/-- how a recording ended -/
inductive EndKind
  | byStop        -- `StopRecording` on the motion sink while one of its frames was processed
  | byBadOrReset  -- a rejected (bad) frame or a camera reset arrived
  | byRestart     -- a successful `StartRecording` on a later frame while it was still open (never in the model)
  | stillOpen     -- the trace ends first
  deriving DecidableEq, Repr

/-- a recording: the motion bits of the frames it received, trigger frame first, and how it ended -/
abbrev Recording := List Bool × EndKind

/-- The remainder of a recording that has received the frames `ms` so far and is still open, given the
steps that follow.  Only FRAME events add a frame; a test-recording request is skipped; a bad frame or a
reset ends the recording without adding a frame; a frame that carries a stop is the last frame. -/
def restOf (ms : List Bool) : List Step → Recording
  | [] => (ms, .stillOpen)
  | st :: rest =>
    match st.ev with
    | .frame m _ =>
      if hasStartOk st.obs then (ms, .byRestart)
      else if hasStop st.obs then (ms ++ [m], .byStop)
      else restOf (ms ++ [m]) rest
    | .bad _ => (ms, .byBadOrReset)
    | .reset _ => (ms, .byBadOrReset)
    | .testReq => restOf ms rest

/-- All recordings of a trace, oldest first: one for every frame event that carries a successful
`StartRecording` on the motion sink (the trigger frame, counted as frame 1 of the recording). -/
def recordingsOf : List Step → List Recording
  | [] => []
  | st :: rest =>
    match st.ev with
    | .frame m _ =>
      if hasStartOk st.obs then
        (if hasStop st.obs then ([m], EndKind.byStop) else restOf [m] rest) :: recordingsOf rest
      else recordingsOf rest
    | _ => recordingsOf rest

/-- 1-based index of the last `true` in the list, 0 if there is none -/
def lastMotion : List Bool → Nat
  | [] => 0
  | b :: bs => if lastMotion bs ≠ 0 then lastMotion bs + 1 else if b then 1 else 0

/-- The length rule at frame `p` (1-based, trigger frame = 1) of a recording with motion bits `ms`:
`p` has reached `maxF`, or `p` has reached `L - 1 + minF` where `L` is the index of the last motion frame
among frames `1..p`.  (If none of them had motion — impossible in the model, whose trigger frame is a
motion frame — the rule reads as if the trigger frame had: `0 - 1 = 0` in `Nat`.) -/
def dueAt (minF maxF : Nat) (ms : List Bool) (p : Nat) : Prop :=
  p ≥ min maxF (lastMotion (ms.take p) - 1 + minF)

instance (minF maxF : Nat) (ms : List Bool) (p : Nat) : Decidable (dueAt minF maxF ms p) := by
  unfold dueAt; infer_instance

/-- **The length rule for one recording**: at every frame `p` of the recording, the rule is due at `p`
if and only if the recording was stopped at `p` (i.e. `p` is its last frame and it ended `byStop`). -/
def LengthRuleRec (minF maxF : Nat) (r : Recording) : Prop :=
  ∀ p, 1 ≤ p → p ≤ r.1.length → (dueAt minF maxF r.1 p ↔ (p = r.1.length ∧ r.2 = .byStop))

/-- **The plain specification of C03**: every recording of the trace obeys the length rule. -/
def LengthRule (minF maxF : Nat) (tr : List Step) : Prop :=
  ∀ r ∈ recordingsOf tr, LengthRuleRec minF maxF r

/-- the first frame of a recording at which the length rule is due, if there is one -/
def stopPoint (minF maxF : Nat) (ms : List Bool) : Option Nat :=
  (List.range' 1 ms.length).find? fun p => decide (dueAt minF maxF ms p)

theorem lastMotion_snoc (ms : List Bool) (b : Bool) :
    lastMotion (ms ++ [b]) = if b then ms.length + 1 else lastMotion ms := by
  induction ms with
  | nil => cases b <;> rfl
  | cons a ms ih =>
    simp only [List.cons_append, lastMotion, ih, List.length_cons]
    cases b
    · simp
    · simp

theorem lastMotion_le (ms : List Bool) : lastMotion ms ≤ ms.length := by
  induction ms with
  | nil => exact Nat.le_refl _
  | cons a ms ih =>
    simp only [lastMotion, List.length_cons]
    split
    · omega
    · split <;> omega

theorem lastMotion_spec (ms : List Bool) :
    (lastMotion ms = 0 ∧ ∀ b ∈ ms, b = false) ∨
    (∃ pre post, ms = pre ++ true :: post ∧ (∀ b ∈ post, b = false) ∧ lastMotion ms = pre.length + 1) := by
  induction ms with
  | nil => exact Or.inl ⟨rfl, by intro b hb; cases hb⟩
  | cons a ms ih =>
    rcases ih with ⟨h0, hall⟩ | ⟨pre, post, rfl, hpost, hl⟩
    · cases a
      · refine Or.inl ⟨by simp [lastMotion, h0], ?_⟩
        intro b hb
        rcases List.mem_cons.mp hb with rfl | hb
        · rfl
        · exact hall b hb
      · exact Or.inr ⟨[], ms, rfl, hall, by simp [lastMotion, h0]⟩
    · refine Or.inr ⟨a :: pre, post, rfl, hpost, ?_⟩
      simp only [lastMotion, hl, List.length_cons]
      simp

theorem dueAt_append (minF maxF : Nat) (ms more : List Bool) (p : Nat) (hp : p ≤ ms.length) :
    dueAt minF maxF (ms ++ more) p ↔ dueAt minF maxF ms p := by
  unfold dueAt
  rw [List.take_append_of_le_length hp]

theorem dueAt_length (minF maxF : Nat) (ms : List Bool) :
    dueAt minF maxF ms ms.length ↔ ms.length ≥ min maxF (lastMotion ms - 1 + minF) := by
  unfold dueAt
  rw [List.take_length]

/-! ## the monitor accepts exactly the traces that obey the length rule

The monitor is a scan (`monC03_iff_scan`): its counters are the length and the last motion index of the motion
bits of the open recording (`Tracks`), and its verdict at a frame is `frameOk`.  The scan is then read
recording by recording (`scan_iff`). -/

theorem restOf_shape : ∀ (rest : List Step) (ms : List Bool),
    ∃ more, (restOf ms rest).1 = ms ++ more ∧ ((restOf ms rest).2 = .byStop → more ≠ []) := by
  intro rest
  induction rest with
  | nil => intro ms; exact ⟨[], by simp [restOf], by simp [restOf]⟩
  | cons st rest ih =>
    intro ms
    obtain ⟨ev, obs⟩ := st
    cases ev with
    | testReq => exact ih ms
    | bad f | reset f => exact ⟨[], by simp [restOf], by simp [restOf]⟩
    | frame mo f =>
      cases hs : hasStartOk obs with
      | true => exact ⟨[], by simp [restOf, hs], by simp [restOf, hs]⟩
      | false =>
        cases hst : hasStop obs with
        | true => exact ⟨[mo], by simp [restOf, hs, hst], by simp⟩
        | false =>
          obtain ⟨more, h1, _⟩ := ih (ms ++ [mo])
          refine ⟨mo :: more, ?_, by simp⟩
          simp only [restOf, hs, hst, Bool.false_eq_true, if_false]
          rw [h1]; simp

/-- the recording a step belongs to, as its motion bits up to and including the step's own frame, given the
bits `o` of the recording open before the step (`none`: not a frame of a recording) -/
def recAt (o : Option (List Bool)) (st : Step) : Option (List Bool) :=
  match st.ev with
  | .frame m _ => if hasStartOk st.obs then some [m] else o.map (· ++ [m])
  | _ => none

/-- the recording open after a step -/
def nextRec (o : Option (List Bool)) (st : Step) : Option (List Bool) :=
  match st.ev with
  | .frame _ _ => if hasStop st.obs then none else recAt o st
  | .testReq => o
  | _ => none

/-- at a frame of a recording: stopped iff the length rule is due -/
def frameOk (minF maxF : Nat) (o : Option (List Bool)) (st : Step) : Bool :=
  match recAt o st with
  | some ms => decide (hasStop st.obs = true ↔ dueAt minF maxF ms ms.length)
  | none => true

/-- what the monitor's counters know of the open recording -/
def Tracks (m : M3) (o : Option (List Bool)) : Prop :=
  m.tainted = false ∧ m.openRec = o.isSome ∧ ∀ ms, o = some ms → m.p = ms.length ∧ m.l = lastMotion ms

theorem m3_frame (minF maxF : Nat) (m : M3) (o : Option (List Bool)) (mo : Bool) (f : Faults) (obs : List Obs)
    (hnf : Step.motionWriteFault ⟨.frame mo f, obs⟩ = false) (h : Tracks m o) :
    M3.step minF maxF m ⟨.frame mo f, obs⟩ =
      match recAt o ⟨.frame mo f, obs⟩ with
      | none => m
      | some ms => { m with p := ms.length, l := lastMotion ms, openRec := !hasStop obs,
                            fails := m.fails ++ M3.verdict minF maxF ms.length (lastMotion ms) (hasStop obs) } := by
  obtain ⟨ht, ho, hc⟩ := h
  cases hs : hasStartOk obs with
  | true =>
    rw [M3.step_frame_start minF maxF m mo f obs hnf hs ht]
    simp only [recAt, hs, if_true]
    cases mo <;> rfl
  | false =>
    cases o with
    | none => rw [M3.step_frame_idle minF maxF m mo f obs hnf hs ho]; simp only [recAt, hs]; rfl
    | some ms =>
      obtain ⟨hp, hl⟩ := hc ms rfl
      rw [M3.step_frame_open minF maxF m mo f obs hnf hs ho ht]
      simp only [recAt, hs, Bool.false_eq_true, if_false, Option.map_some, lastMotion_snoc, List.length_append,
        List.length_cons, List.length_nil, hp, hl]

theorem tracks_step (minF maxF : Nat) (m : M3) (o : Option (List Bool)) (st : Step)
    (hnf : st.motionWriteFault = false) (h : Tracks m o) :
    Tracks (M3.step minF maxF m st) (nextRec o st) ∧
    ((M3.step minF maxF m st).fails = [] ↔ m.fails = [] ∧ frameOk minF maxF o st = true) := by
  obtain ⟨ev, obs⟩ := st
  cases ev with
  | testReq => rw [M3.step_testReq minF maxF m obs hnf]; exact ⟨h, (and_iff_left rfl).symm⟩
  | bad f => rw [M3.step_bad minF maxF m f obs hnf]; exact ⟨⟨h.1, rfl, fun _ h => nomatch h⟩, (and_iff_left rfl).symm⟩
  | reset f => rw [M3.step_reset minF maxF m f obs hnf]; exact ⟨⟨h.1, rfl, fun _ h => nomatch h⟩, (and_iff_left rfl).symm⟩
  | frame mo f =>
    rw [m3_frame minF maxF m o mo f obs hnf h]
    simp only [nextRec, frameOk]
    cases hr : recAt o ⟨.frame mo f, obs⟩ with
    | none =>
      obtain rfl : o = none := by
        simp only [recAt] at hr
        split at hr
        · cases hr
        · exact Option.map_eq_none_iff.mp hr
      rw [ite_self]; exact ⟨h, (and_iff_left rfl).symm⟩
    | some ms =>
      refine ⟨⟨h.1, by cases hasStop obs <;> rfl, fun ms' hms => ?_⟩, ?_⟩
      · split at hms
        · cases hms
        · cases hms; exact ⟨rfl, rfl⟩
      · simp only [List.append_eq_nil_iff, M3.verdict_nil, decide_eq_true_iff, dueAt_length]

theorem monC03_iff_scan (minF maxF : Nat) (tr : List Step) (hnf : ∀ st ∈ tr, st.motionWriteFault = false) :
    monC03 minF maxF tr = [] ↔ scanAll nextRec (frameOk minF maxF) none tr = true :=
  (monitor_sim (M3.step minF maxF) (·.fails) nextRec (frameOk minF maxF) Tracks (·.motionWriteFault = false)
    (tracks_step minF maxF) tr {} none hnf ⟨rfl, rfl, fun _ h => nomatch h⟩).2.trans (and_iff_right rfl)

/-- the length rule of a recording at its frames after the first `n` -/
def RuleFrom (minF maxF n : Nat) (r : Recording) : Prop :=
  ∀ p, n < p → p ≤ r.1.length → (dueAt minF maxF r.1 p ↔ (p = r.1.length ∧ r.2 = .byStop))

theorem ruleFrom_length (minF maxF : Nat) (ms : List Bool) (e : EndKind) : RuleFrom minF maxF ms.length (ms, e) :=
  fun _ h1 h2 => absurd h2 (Nat.not_le_of_lt h1)

theorem ruleFrom_succ (minF maxF n : Nat) (r : Recording) :
    RuleFrom minF maxF n r ↔
      (n + 1 ≤ r.1.length → (dueAt minF maxF r.1 (n + 1) ↔ (n + 1 = r.1.length ∧ r.2 = .byStop))) ∧
      RuleFrom minF maxF (n + 1) r := by
  constructor
  · exact fun h => ⟨h (n + 1) (Nat.lt_succ_self n), fun p hp => h p (Nat.lt_of_succ_lt hp)⟩
  · rintro ⟨h0, h⟩ p hp hle
    rcases Nat.eq_or_lt_of_le (Nat.succ_le_of_lt hp) with rfl | hlt
    · exact h0 hle
    · exact h p hlt hle

/-- one more frame, at which the recording is stopped -/
theorem ruleFrom_stop (minF maxF : Nat) (ms : List Bool) (m : Bool) :
    RuleFrom minF maxF ms.length (ms ++ [m], .byStop) ↔ dueAt minF maxF (ms ++ [m]) (ms ++ [m]).length := by
  have hl : (ms ++ [m]).length = ms.length + 1 := List.length_append
  rw [ruleFrom_succ, hl]
  exact ⟨fun h => (h.1 (Nat.le_refl _)).mpr ⟨rfl, rfl⟩,
    fun h => ⟨fun _ => ⟨fun _ => ⟨rfl, rfl⟩, fun _ => h⟩, hl ▸ ruleFrom_length minF maxF (ms ++ [m]) _⟩⟩

/-- one more frame, after which the recording goes on -/
theorem ruleFrom_cont (minF maxF : Nat) (ms : List Bool) (m : Bool) (rest : List Step) :
    RuleFrom minF maxF ms.length (restOf (ms ++ [m]) rest) ↔
      ¬ dueAt minF maxF (ms ++ [m]) (ms ++ [m]).length ∧
      RuleFrom minF maxF (ms ++ [m]).length (restOf (ms ++ [m]) rest) := by
  have hl : (ms ++ [m]).length = ms.length + 1 := List.length_append
  obtain ⟨more, e1, e2⟩ := restOf_shape rest (ms ++ [m])
  rw [ruleFrom_succ, hl]
  refine and_congr_left fun _ => ?_
  have hle : ms.length + 1 ≤ (restOf (ms ++ [m]) rest).1.length := by rw [e1, List.length_append, hl]; omega
  have hd : dueAt minF maxF (restOf (ms ++ [m]) rest).1 (ms.length + 1) ↔
      dueAt minF maxF (ms ++ [m]) (ms.length + 1) := by
    rw [e1]; exact dueAt_append minF maxF _ more _ (Nat.le_of_eq hl.symm)
  have hn : ¬ (ms.length + 1 = (restOf (ms ++ [m]) rest).1.length ∧ (restOf (ms ++ [m]) rest).2 = .byStop) := by
    rintro ⟨g1, g2⟩
    rw [e1, List.length_append, hl] at g1
    exact e2 g2 (List.eq_nil_of_length_eq_zero (by omega))
  rw [hd]
  exact ⟨fun h hdue => hn ((h hle).mp hdue), fun h _ => ⟨fun hdue => absurd hdue h, fun g => absurd g hn⟩⟩

/-- **the scan, recording by recording**: the checks pass along `tr`, started with the open recording `o`,
iff the rest of that recording obeys the length rule from its next frame on and so does, at every frame,
each recording that starts in `tr` -/
theorem scan_iff (minF maxF : Nat) : ∀ (tr : List Step) (o : Option (List Bool)),
    scanAll nextRec (frameOk minF maxF) o tr = true ↔
      (∀ ms, o = some ms → RuleFrom minF maxF ms.length (restOf ms tr)) ∧
      ∀ r ∈ recordingsOf tr, LengthRuleRec minF maxF r := by
  intro tr
  induction tr with
  | nil => intro o; exact ⟨fun _ => ⟨fun ms _ => ruleFrom_length minF maxF ms _, fun _ h => nomatch h⟩, fun _ => rfl⟩
  | cons st tr ih =>
    intro o
    rw [scanAll, Bool.and_eq_true, ih]
    obtain ⟨ev, obs⟩ := st
    cases ev with
    | testReq => exact ⟨fun h => h.2, fun h => ⟨rfl, h⟩⟩
    | bad f | reset f =>
      exact ⟨fun h => ⟨fun ms _ => ruleFrom_length minF maxF ms _, h.2.2⟩, fun h => ⟨rfl, (fun _ h => nomatch h), h.2⟩⟩
    | frame mo f =>
      -- the frame joins a recording (a new one, or the open one with bits `ms`) and stops it or not:
      -- `ruleFrom_stop`, `ruleFrom_cont` on the first conjunct
      cases hs : hasStartOk obs with
      | true =>
        have h0 : (∀ ms, o = some ms → RuleFrom minF maxF ms.length (ms, EndKind.byRestart)) ↔ True :=
          iff_true_intro fun ms _ => ruleFrom_length minF maxF ms _
        cases hst : hasStop obs <;>
          simp only [frameOk, nextRec, recAt, restOf, recordingsOf, hs, hst, if_true, decide_eq_true_iff,
            List.forall_mem_cons, h0, true_and, Bool.false_eq_true, if_false, false_iff, true_iff, Option.some.injEq,
            forall_eq', reduceCtorEq, false_implies, implies_true]
        · exact and_assoc.symm.trans (and_congr_left' (ruleFrom_cont minF maxF [] mo tr).symm)
        · exact and_congr_left' (ruleFrom_stop minF maxF [] mo).symm
      | false =>
        cases o with
        | none =>
          simp only [frameOk, nextRec, recAt, recordingsOf, hs, Bool.false_eq_true, if_false, Option.map_none, ite_self,
            reduceCtorEq, false_implies, implies_true, true_and]
        | some ms =>
          cases hst : hasStop obs <;>
            simp only [frameOk, nextRec, recAt, restOf, recordingsOf, hs, hst, Bool.false_eq_true, if_false, if_true,
              Option.map_some, decide_eq_true_iff, Option.some.injEq, forall_eq', false_iff, true_iff, reduceCtorEq,
              false_implies, implies_true, true_and]
          · exact and_assoc.symm.trans (and_congr_left' (ruleFrom_cont minF maxF ms mo tr).symm)
          · exact and_congr_left' (ruleFrom_stop minF maxF ms mo).symm

/-- **The C03 monitor accepts exactly the traces whose recordings obey the length rule**, when no step dictates
a failing motion-sink write. -/
theorem monC03_iff (minF maxF : Nat) (tr : List Step) (hnf : ∀ st ∈ tr, st.motionWriteFault = false) :
    monC03 minF maxF tr = [] ↔ LengthRule minF maxF tr :=
  (monC03_iff_scan minF maxF tr hnf).trans
    ((scan_iff minF maxF tr none).trans (and_iff_right fun _ h => nomatch h))

theorem recordingsOf_nonempty : ∀ (tr : List Step), ∀ r ∈ recordingsOf tr, 1 ≤ r.1.length := by
  intro tr
  induction tr with
  | nil => intro r hr; cases hr
  | cons st rest ih =>
    obtain ⟨ev, obs⟩ := st
    cases ev with
    | testReq | bad f | reset f => exact ih
    | frame mo f =>
      cases hs : hasStartOk obs with
      | false => simpa only [recordingsOf, hs, Bool.false_eq_true, if_false] using ih
      | true =>
        simp only [recordingsOf, hs, if_true]
        intro r hr
        rcases List.mem_cons.mp hr with rfl | hr
        · cases hst : hasStop obs with
          | true => simp
          | false =>
            simp only [Bool.false_eq_true, if_false]
            obtain ⟨more, h1, _⟩ := restOf_shape rest [mo]
            rw [h1]; simp
        · exact ih r hr

theorem rec_length_le (minF maxF : Nat) (r : Recording) (h : LengthRuleRec minF maxF r) :
    r.1.length ≤ max 1 maxF := by
  by_cases h2 : r.1.length ≤ 1
  · omega
  · have hn : ¬ dueAt minF maxF r.1 (r.1.length - 1) := fun hd =>
      absurd ((h (r.1.length - 1) (by omega) (Nat.sub_le _ _)).mp hd).1 (by omega)
    unfold dueAt at hn
    clear h
    omega

theorem rec_stop_length_ge (minF maxF : Nat) (ms : List Bool) (h1 : 1 ≤ ms.length)
    (h : LengthRuleRec minF maxF (ms, .byStop)) : min maxF minF ≤ ms.length := by
  have hd := (dueAt_length minF maxF ms).mp ((h ms.length h1 (Nat.le_refl _)).mpr ⟨rfl, rfl⟩)
  omega

/-- **exact length** of a recording ended by a stop: with `L` the index of its last motion frame it holds
`min maxF (L - 1 + minF)` frames (and at least the trigger frame) — it ends `minF - 1` frames after its last
motion frame unless capped by `maxF` -/
theorem rec_stop_length_eq (minF maxF : Nat) (ms : List Bool) (h1 : 1 ≤ ms.length)
    (h : LengthRuleRec minF maxF (ms, .byStop)) :
    ms.length = max 1 (min maxF (lastMotion ms - 1 + minF)) := by
  have hd := (dueAt_length minF maxF ms).mp ((h ms.length h1 (Nat.le_refl _)).mpr ⟨rfl, rfl⟩)
  rcases List.eq_nil_or_concat ms with rfl | ⟨init, b, rfl⟩
  · cases h1
  · rw [List.concat_eq_append] at h hd ⊢
    have hlen : (init ++ [b]).length = init.length + 1 := List.length_append
    have hle := lastMotion_le init
    -- the rule was not due one frame earlier
    have hn : init.length ≠ 0 → init.length < min maxF (lastMotion init - 1 + minF) := by
      intro hi
      have := h init.length (Nat.pos_of_ne_zero hi) (by rw [hlen]; exact Nat.le_succ _)
      rw [dueAt_append minF maxF init [b] _ (Nat.le_refl _), dueAt_length] at this
      exact Nat.lt_of_not_le fun hd' => absurd (this.mp hd').1 (by rw [hlen]; exact Nat.ne_of_lt (Nat.lt_succ_self _))
    rw [lastMotion_snoc, hlen] at hd ⊢
    clear h h1 hlen
    cases b <;> simp only [Bool.false_eq_true, if_false, if_true] at hd ⊢
    · generalize min maxF (lastMotion init - 1 + minF) = w at hd hn ⊢
      omega
    · have hw : min maxF (lastMotion init - 1 + minF) ≤ min maxF (init.length + 1 - 1 + minF) := by omega
      generalize min maxF (lastMotion init - 1 + minF) = w0 at hn hw
      generalize min maxF (init.length + 1 - 1 + minF) = w at hd hw ⊢
      omega

/-- a recording not ended by a stop (bad frame, reset, restart, still open): the rule was never due, in
particular at its last frame — fewer than `maxF` frames, and the last motion frame is recent -/
theorem rec_other_length_lt (minF maxF : Nat) (ms : List Bool) (e : EndKind) (he : e ≠ .byStop)
    (h1 : 1 ≤ ms.length) (h : LengthRuleRec minF maxF (ms, e)) :
    ms.length < min maxF (lastMotion ms - 1 + minF) := by
  have hn : ¬ dueAt minF maxF ms ms.length := by
    intro hd
    exact he ((h ms.length h1 (Nat.le_refl _)).mp hd).2
  rw [dueAt_length] at hn
  omega

/-- **closed form**: a recording obeys the length rule iff the first frame at which the rule is due is its
last frame when it ended `byStop`, and there is no such frame when it ended otherwise -/
theorem lengthRuleRec_iff_stopPoint (minF maxF : Nat) (r : Recording) (h1 : 1 ≤ r.1.length) :
    LengthRuleRec minF maxF r ↔
      stopPoint minF maxF r.1 = if r.2 = .byStop then some r.1.length else none := by
  unfold stopPoint
  by_cases he : r.2 = .byStop
  · rw [if_pos he, List.find?_range'_eq_some]
    simp only [decide_eq_true_eq, List.mem_range'_1, Bool.not_eq_true', decide_eq_false_iff_not]
    constructor
    · intro h
      refine ⟨(h _ h1 (Nat.le_refl _)).mpr ⟨rfl, he⟩, ⟨h1, Nat.lt_add_of_pos_left Nat.one_pos⟩, ?_⟩
      intro j hj1 hj2 hd
      exact absurd ((h j hj1 (Nat.le_of_lt hj2)).mp hd).1 (Nat.ne_of_lt hj2)
    · rintro ⟨h3, _, h4⟩ p hp1 hp2
      by_cases hp : p = r.1.length
      · subst hp; exact ⟨fun _ => ⟨rfl, he⟩, fun _ => h3⟩
      · exact ⟨fun hd => absurd hd (h4 p hp1 (Nat.lt_of_le_of_ne hp2 hp)), fun hh => absurd hh.1 hp⟩
  · rw [if_neg he, List.find?_eq_none]
    simp only [decide_eq_true_eq, List.mem_range'_1]
    constructor
    · intro h x hx hd
      exact he ((h x hx.1 (by omega)).mp hd).2
    · intro h p hp1 hp2
      exact ⟨fun hd => absurd hd (h p ⟨hp1, by omega⟩), fun hh => absurd hh.2 he⟩

/-! ### decidability (for the examples) -/

instance (minF maxF : Nat) (r : Recording) : Decidable (LengthRuleRec minF maxF r) :=
  decidable_of_iff
    (∀ p, p < r.1.length + 1 → 1 ≤ p → (dueAt minF maxF r.1 p ↔ (p = r.1.length ∧ r.2 = .byStop)))
    ⟨fun h p h1 h2 => h p (by omega) h1, fun h p h1 h2 => h p h2 (by omega)⟩

instance (minF maxF : Nat) (tr : List Step) : Decidable (LengthRule minF maxF tr) := by
  unfold LengthRule; infer_instance

/-- a recording starts at this step: a frame event with a successful `StartRecording` on the motion sink -/
def startsRec (st : Step) : Bool := st.ev.isFrame && hasStartOk st.obs

/-- this step ends an open recording: a frame event with a `StopRecording`, a bad frame, or a reset -/
def endsRec (st : Step) : Bool :=
  match st.ev with
  | .frame _ _ => hasStop st.obs
  | .bad _ => true
  | .reset _ => true
  | .testReq => false

/-- the motion bits of the FRAME events of a stretch of the trace -/
def motionBits (seg : List Step) : List Bool := (seg.filter (·.ev.isFrame)).map (·.ev.motion)

theorem motionBits_cons_frame (mo : Bool) (f : Faults) (obs : List Obs) (seg : List Step) :
    motionBits (⟨.frame mo f, obs⟩ :: seg) = mo :: motionBits seg := rfl
theorem motionBits_cons_testReq (obs : List Obs) (seg : List Step) :
    motionBits (⟨.testReq, obs⟩ :: seg) = motionBits seg := rfl
theorem motionBits_nil : motionBits [] = [] := rfl

theorem motionBits_append (a b : List Step) : motionBits (a ++ b) = motionBits a ++ motionBits b := by
  simp [motionBits]

theorem motionBits_single_frame (st : Step) (h : st.ev.isFrame = true) : motionBits [st] = [st.ev.motion] := by
  simp [motionBits, h]

theorem startsRec_isFrame (st : Step) (h : startsRec st = true) : st.ev.isFrame = true := by
  simp only [startsRec, Bool.and_eq_true] at h; exact h.1

theorem motionBits_first (first : Step) (mid : List Step) (h1 : startsRec first = true) :
    motionBits (first :: mid) = first.ev.motion :: motionBits mid := by
  have := startsRec_isFrame first h1
  simp [motionBits, this]

/-- the step joins the recording with bits `o` before it (or starts one) and leaves it with bits `ms` -/
def Joins (o : Option (List Bool)) (y : Step) (ms : List Bool) : Prop :=
  (startsRec y = true ∧ ms = motionBits [y]) ∨
  (startsRec y = false ∧ ∃ m0, o = some m0 ∧ ms = m0 ++ motionBits [y])

theorem recAt_eq_some (o : Option (List Bool)) (y : Step) (ms : List Bool) :
    recAt o y = some ms ↔ y.ev.isFrame = true ∧ Joins o y ms := by
  obtain ⟨ev, obs⟩ := y
  cases ev with
  | frame m f =>
    simp only [recAt, Joins, startsRec, Ev.isFrame, Bool.true_and, true_and, motionBits_cons_frame, motionBits_nil]
    cases hasStartOk obs
    · cases o <;> simp [eq_comm]
    · simp [eq_comm]
  | _ => simp [recAt, Ev.isFrame]

theorem nextRec_eq_some (o : Option (List Bool)) (y : Step) (ms : List Bool) :
    nextRec o y = some ms ↔ endsRec y = false ∧ Joins o y ms := by
  obtain ⟨ev, obs⟩ := y
  cases ev with
  | frame m f =>
    simp only [nextRec, endsRec]
    cases hasStop obs
    · simp only [Bool.false_eq_true, if_false, true_and]
      exact (recAt_eq_some o _ ms).trans (and_iff_right rfl)
    · simp
  | testReq =>
    simp only [nextRec, endsRec, Joins, startsRec, Ev.isFrame, Bool.false_and, motionBits_cons_testReq, motionBits_nil,
      List.append_nil, true_and, Bool.false_eq_true, false_and, false_or]
    exact ⟨fun h => ⟨ms, h, rfl⟩, fun ⟨_, h, e⟩ => e ▸ h⟩
  | bad f | reset f => simp [nextRec, endsRec]

/-- the steps strictly inside a recording: they neither start nor end one -/
def Quiet (mid : List Step) : Prop := ∀ s ∈ mid, startsRec s = false ∧ endsRec s = false

/-- **the recording open after a prefix**, as a cut of the prefix: `first` starts it and does not end it, the
steps after `first` are quiet, and its bits are the motion bits of `first :: mid` -/
theorem open_iff (ms : List Bool) : ∀ (a : List Step),
    a.foldl nextRec none = some ms ↔
      ∃ pre first mid, a = pre ++ first :: mid ∧ startsRec first = true ∧ endsRec first = false ∧ Quiet mid ∧
        ms = motionBits (first :: mid) := by
  intro a
  induction a using snoc_induction generalizing ms with
  | h0 => exact ⟨(fun h => nomatch h), fun ⟨pre, _, _, h, _⟩ => absurd h (by simp)⟩
  | hs a y ih =>
    rw [List.foldl_append, List.foldl_cons, List.foldl_nil, nextRec_eq_some]
    constructor
    · rintro ⟨he, ⟨hs, rfl⟩ | ⟨hs, m0, h0, rfl⟩⟩
      · exact ⟨a, y, [], rfl, hs, he, (fun _ h => nomatch h), rfl⟩
      · obtain ⟨pre, first, mid, rfl, h1, h2, h3, rfl⟩ := (ih m0).mp h0
        refine ⟨pre, first, mid ++ [y], by simp, h1, h2, ?_, ?_⟩
        · intro s hs'
          rcases List.mem_append.mp hs' with h | h
          · exact h3 s h
          · rw [List.mem_singleton.mp h]; exact ⟨hs, he⟩
        · rw [← List.cons_append, motionBits_append]
    · rintro ⟨pre, first, mid, e, h1, h2, h3, rfl⟩
      rcases snoc_eq_append_cons a pre mid y first e with ⟨rfl, rfl, rfl⟩ | ⟨mid', rfl, rfl⟩
      · exact ⟨h2, Or.inl ⟨h1, rfl⟩⟩
      · have hy := h3 y (List.mem_append_right _ (List.mem_singleton_self y))
        refine ⟨hy.2, Or.inr ⟨hy.1, _, (ih _).mpr ⟨pre, first, mid', rfl, h1, h2,
          fun s hs => h3 s (List.mem_append_left _ hs), rfl⟩, ?_⟩⟩
        rw [← List.cons_append, motionBits_append]

/-- **the length rule, cut by cut**: at the step that starts a recording, and at every later frame of it -/
def LengthRuleSeg (minF maxF : Nat) (tr : List Step) : Prop :=
  (∀ pre first post, tr = pre ++ first :: post → startsRec first = true →
    (hasStop first.obs = true ↔ dueAt minF maxF [first.ev.motion] 1)) ∧
  ∀ pre first mid last post, tr = pre ++ first :: (mid ++ last :: post) →
    startsRec first = true → endsRec first = false → Quiet mid → last.ev.isFrame = true → startsRec last = false →
    (hasStop last.obs = true ↔
      dueAt minF maxF (motionBits (first :: (mid ++ [last]))) (motionBits (first :: (mid ++ [last]))).length)

theorem frameOk_iff (minF maxF : Nat) (o : Option (List Bool)) (x : Step) :
    frameOk minF maxF o x = true ↔
      ∀ ms, recAt o x = some ms → (hasStop x.obs = true ↔ dueAt minF maxF ms ms.length) := by
  unfold frameOk
  cases recAt o x with
  | none => exact ⟨(fun _ _ h => nomatch h), fun _ => rfl⟩
  | some ms => exact decide_eq_true_iff.trans ⟨fun h _ e => Option.some.inj e ▸ h, fun h => h ms rfl⟩

theorem motionBits_snoc (first : Step) (mid : List Step) (last : Step) :
    motionBits (first :: (mid ++ [last])) = motionBits (first :: mid) ++ motionBits [last] := by
  rw [← List.cons_append, motionBits_append]

theorem scan_iff_seg (minF maxF : Nat) (tr : List Step) :
    scanAll nextRec (frameOk minF maxF) none tr = true ↔ LengthRuleSeg minF maxF tr := by
  rw [scanAll_iff_split]
  constructor
  · intro h
    constructor
    · intro pre first post e h1
      have hfr := startsRec_isFrame first h1
      have := (frameOk_iff ..).mp (h pre first post e) _
        ((recAt_eq_some ..).mpr ⟨hfr, Or.inl ⟨h1, rfl⟩⟩)
      rwa [motionBits_single_frame first hfr] at this
    · intro pre first mid last post e h1 h2 hq hfr hl
      have := (frameOk_iff ..).mp (h (pre ++ first :: mid) last post (by rw [e]; simp)) _
        ((recAt_eq_some ..).mpr ⟨hfr, Or.inr ⟨hl, _, (open_iff _ _).mpr ⟨pre, first, mid, rfl, h1, h2, hq, rfl⟩, rfl⟩⟩)
      rwa [← motionBits_snoc] at this
  · rintro ⟨ht, hf⟩ a x b e
    rw [frameOk_iff]
    intro ms hms
    obtain ⟨hfr, ⟨h1, rfl⟩ | ⟨hl, m0, h0, rfl⟩⟩ := (recAt_eq_some ..).mp hms
    · rw [motionBits_single_frame x hfr]; exact ht a x b e h1
    · obtain ⟨pre, first, mid, rfl, h1, h2, hq, rfl⟩ := (open_iff _ _).mp h0
      rw [← motionBits_snoc]
      exact hf pre first mid x b (by rw [e]; simp) h1 h2 hq hfr hl

/-- a recording starts at position `i` -/
def startsAt (tr : List Step) (i : Nat) : Prop := ∃ st, tr[i]? = some st ∧ startsRec st = true

/-- position `k ≥ i` is still inside the recording that started at `i`: no step at `i..k-1` ended it and no
step at `i+1..k` started a new one -/
def insideRecording (tr : List Step) (i k : Nat) : Prop :=
  i ≤ k ∧ (∀ j st, i ≤ j → j < k → tr[j]? = some st → endsRec st = false) ∧
  (∀ j st, i < j → j ≤ k → tr[j]? = some st → startsRec st = false)

/-- the motion bits of the frame events at positions `i..k` -/
def framesBetween (tr : List Step) (i k : Nat) : List Bool := motionBits ((tr.drop i).take (k + 1 - i))

/-- the length rule at position `k` of the recording started at `i`: with `p` the number of frame events at
`i..k` and `l` the index (counted the same way) of the last one with motion, `p ≥ min maxF (l - 1 + minF)` -/
def due (minF maxF : Nat) (tr : List Step) (i k : Nat) : Prop :=
  (framesBetween tr i k).length ≥ min maxF (lastMotion (framesBetween tr i k) - 1 + minF)

/-- **the positional form of the specification**: at every frame of a recording, the recording is stopped at
that frame if and only if the length rule is due -/
def LengthRuleAt (minF maxF : Nat) (tr : List Step) : Prop :=
  ∀ i k st, startsAt tr i → insideRecording tr i k → tr[k]? = some st → st.ev.isFrame = true →
    (hasStop st.obs = true ↔ due minF maxF tr i k)

theorem insideRecording_iff (tr : List Step) (i k : Nat) :
    insideRecording tr i k ↔
      i ≤ k ∧ (∀ x ∈ (tr.drop i).take (k - i), endsRec x = false) ∧
        ∀ x ∈ (tr.drop (i + 1)).take (k - i), startsRec x = false := by
  unfold insideRecording
  refine and_congr_right fun hik => and_congr ?_ ?_
  · rw [← forall_range_iff, Nat.add_sub_cancel' hik]
  · rw [← forall_range_iff, Nat.add_right_comm, Nat.add_sub_cancel' hik]
    exact forall_congr' fun j => forall_congr' fun st => forall_congr' fun _ =>
      ⟨fun h h' => h (Nat.le_of_lt_succ h'), fun h h' => h (Nat.lt_succ_of_le h')⟩

/-- the index notions on a list cut at the start of a recording -/
theorem at_start (pre : List Step) (first : Step) (post : List Step) :
    (pre ++ first :: post)[pre.length]? = some first ∧
    insideRecording (pre ++ first :: post) pre.length pre.length ∧
    framesBetween (pre ++ first :: post) pre.length pre.length = motionBits [first] := by
  refine ⟨by rw [List.getElem?_append_right (Nat.le_refl _), Nat.sub_self]; rfl,
    (insideRecording_iff ..).mpr ⟨Nat.le_refl _, (by rw [Nat.sub_self]; exact fun _ h => nomatch h),
      (by rw [Nat.sub_self]; exact fun _ h => nomatch h)⟩,
    by simp only [framesBetween, Nat.add_sub_cancel_left, List.drop_left', List.take_succ_cons, List.take_zero]⟩

/-- … and cut at the start and at a later step -/
theorem at_later (pre : List Step) (first : Step) (mid : List Step) (last : Step) (post : List Step) :
    (pre ++ first :: (mid ++ last :: post))[pre.length + (mid.length + 1)]? = some last ∧
    (insideRecording (pre ++ first :: (mid ++ last :: post)) pre.length (pre.length + (mid.length + 1)) ↔
      endsRec first = false ∧ Quiet mid ∧ startsRec last = false) ∧
    framesBetween (pre ++ first :: (mid ++ last :: post)) pre.length (pre.length + (mid.length + 1)) =
      motionBits (first :: (mid ++ [last])) := by
  have ht : (mid ++ last :: post).take (mid.length + 1) = mid ++ [last] := by
    simp only [List.take_append, Nat.le_add_right, List.take_of_length_le, Nat.add_sub_cancel_left,
      List.take_succ_cons, List.take_zero]
  have hk : pre.length + (mid.length + 1) + 1 - pre.length = mid.length + 1 + 1 := by omega
  have hd : (pre ++ first :: (mid ++ last :: post)).drop (pre.length + 1) = mid ++ last :: post := by
    simp only [List.drop_length_add_append, List.drop_succ_cons, List.drop_zero]
  refine ⟨?_, ?_, by simp only [framesBetween, hk, List.drop_left', List.take_succ_cons, ht]⟩
  · rw [List.getElem?_append_right (Nat.le_add_right _ _), Nat.add_sub_cancel_left, List.getElem?_cons_succ,
      List.getElem?_append_right (Nat.le_refl _), Nat.sub_self]
    rfl
  rw [insideRecording_iff]
  simp only [Nat.le_add_right, true_and, Nat.add_sub_cancel_left, List.drop_left', List.take_succ_cons, hd, ht,
    List.take_left', List.forall_mem_cons, List.mem_append, List.mem_singleton, or_imp, forall_and, forall_eq]
  exact ⟨fun ⟨⟨a, b⟩, c, d⟩ => ⟨a, fun s hs => ⟨c s hs, b s hs⟩, d⟩,
    fun ⟨a, q, d⟩ => ⟨⟨a, fun s hs => (q s hs).2⟩, fun s hs => (q s hs).1, d⟩⟩

/-- **cuts and indices say the same**: the two readings of the positional form agree -/
theorem lengthRuleAt_iff_seg (minF maxF : Nat) (tr : List Step) :
    LengthRuleAt minF maxF tr ↔ LengthRuleSeg minF maxF tr := by
  constructor
  · intro h
    constructor
    · rintro pre first post rfl h1
      obtain ⟨hget, hin, hfb⟩ := at_start pre first post
      have hfr := startsRec_isFrame first h1
      have := h pre.length pre.length first ⟨first, hget, h1⟩ hin hget hfr
      rwa [due, hfb, ← dueAt_length, motionBits_single_frame first hfr] at this
    · rintro pre first mid last post rfl h1 h2 hq hfr hl
      obtain ⟨hget, hin, hfb⟩ := at_later pre first mid last post
      have := h pre.length _ last ⟨first, (at_start pre first _).1, h1⟩ (hin.mpr ⟨h2, hq, hl⟩) hget hfr
      rwa [due, hfb, ← dueAt_length] at this
  · rintro h i k st ⟨first, hfi, hfs⟩ hin hst hfr
    obtain ⟨pre, rest, rfl, rfl⟩ := cut_of_getElem? tr i first hfi
    rw [due, ← dueAt_length]
    rcases Nat.eq_or_lt_of_le hin.1 with rfl | hlt
    · obtain rfl : first = st := Option.some.inj ((at_start pre first rest).1.symm.trans hst)
      rw [(at_start pre first rest).2.2, motionBits_single_frame first hfr]
      exact h.1 pre first rest rfl hfs
    · obtain ⟨n, rfl⟩ : ∃ n, k = pre.length + (n + 1) := ⟨k - pre.length - 1, by omega⟩
      obtain ⟨mid, post, rfl, rfl⟩ := cut_of_getElem? rest n st (by
        rwa [List.getElem?_append_right (Nat.le_add_right _ _), Nat.add_sub_cancel_left, List.getElem?_cons_succ] at hst)
      obtain ⟨_, hin', hfb⟩ := at_later pre first mid st post
      obtain ⟨h2, hq, hl⟩ := hin'.mp hin
      rw [hfb]
      exact h.2 pre first mid st post rfl hfs h2 hq hfr hl

/-- **the interpreter form and the positional form of the specification agree on every trace**: both say
that the scan passes -/
theorem lengthRule_iff_positional (minF maxF : Nat) (tr : List Step) :
    LengthRule minF maxF tr ↔ LengthRuleAt minF maxF tr :=
  ((scan_iff minF maxF tr none).trans (and_iff_right fun _ h => nomatch h)).symm.trans
    ((scan_iff_seg minF maxF tr).trans (lengthRuleAt_iff_seg minF maxF tr).symm)

theorem model_start (c : PCfg) (s : PState) (mo : Bool) (f : Faults)
    (h : hasStartOk (PState.step c s (.frame mo f)).2 = true) : mo = true ∧ s.isRec = false := by
  rw [(P03.frame_summary c s mo f).1] at h
  exact ⟨(starts_true h).2, (starts_true h).1⟩

theorem model_frame_isRec (c : PCfg) (s : PState) (mo : Bool) (f : Faults) :
    (PState.step c s (.frame mo f)).1.isRec =
      ((s.isRec || hasStartOk (PState.step c s (.frame mo f)).2) && !hasStop (PState.step c s (.frame mo f)).2) := by
  obtain ⟨h1, h2, h3, _⟩ := P03.frame_summary c s mo f
  rw [h1, h2, h3]; rfl

theorem model_nonframe_start (c : PCfg) (s : PState) (ev : Ev) (h : ev.isFrame = false) :
    hasStartOk (PState.step c s ev).2 = false := by
  cases ev with
  | frame mo f => cases h
  | testReq => rfl
  | reset f => rw [step_reset]; cases s.isRec <;> rfl
  | bad f => rw [step_bad]; cases s.isRec <;> cases c.constOn <;> rfl

theorem model_testReq_obs (c : PCfg) (s : PState) : (PState.step c s .testReq).2 = [] := rfl

theorem model_restOf_kind (c : PCfg) : ∀ (evs : List Ev) (s : PState) (ms : List Bool),
    s.isRec = true → (restOf ms (PState.trace c s evs)).2 ≠ .byRestart := by
  intro evs
  induction evs with
  | nil => intro s ms _; simp [PState.trace, restOf]
  | cons e es ih =>
    intro s ms hr
    cases e with
    | testReq => exact ih _ ms hr
    | bad f | reset f => simp [PState.trace, restOf]
    | frame mo f =>
      have hs : hasStartOk (PState.step c s (.frame mo f)).2 = false := by
        cases hh : hasStartOk (PState.step c s (.frame mo f)).2 with
        | false => rfl
        | true => have := (model_start c s mo f hh).2; rw [hr] at this; cases this
      simp only [PState.trace, restOf, hs, Bool.false_eq_true, if_false]
      cases hst : hasStop (PState.step c s (.frame mo f)).2 with
      | true => simp
      | false =>
        simp only [Bool.false_eq_true, if_false]
        refine ih _ _ ?_
        rw [model_frame_isRec, hr, hst]; rfl

theorem model_recordings_wf (c : PCfg) : ∀ (evs : List Ev) (s : PState),
    ∀ r ∈ recordingsOf (PState.trace c s evs), r.1.head? = some true ∧ r.2 ≠ .byRestart := by
  intro evs
  induction evs with
  | nil => intro s r hr; cases hr
  | cons e es ih =>
    intro s
    cases e with
    | testReq | bad f | reset f => exact ih _
    | frame mo f =>
      cases hs : hasStartOk (PState.step c s (.frame mo f)).2 with
      | false =>
        simp only [PState.trace, recordingsOf, hs, Bool.false_eq_true, if_false]
        exact ih _
      | true =>
        obtain ⟨rfl, hidle⟩ := model_start c s mo f hs
        simp only [PState.trace, recordingsOf, hs, if_true]
        intro r hr
        rcases List.mem_cons.mp hr with rfl | hr
        · cases hst : hasStop (PState.step c s (.frame true f)).2 with
          | true => simp
          | false =>
            simp only [Bool.false_eq_true, if_false]
            obtain ⟨more, h1, _⟩ := restOf_shape (PState.trace c (PState.step c s (.frame true f)).1 es) [true]
            refine ⟨by rw [h1]; rfl, ?_⟩
            refine model_restOf_kind c es _ _ ?_
            rw [model_frame_isRec, hs, hst]; simp
        · exact ih _ r hr

end TR.C03Spec
