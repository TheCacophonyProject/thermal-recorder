import TR.Throttle
/-!
# Proofs.Bucket — the potential argument for the juju token bucket

`E b t` = the number of tokens obtainable at tick `t` without waiting.  It is at most
`cap + 1` (the `+1` is real: after idling while full, `latestTick` is stale and the first
`adjust` after a take credits a whole tick at once), grows by at most `q` per tick, is
unchanged by `Available()` and drops by exactly the number of tokens taken.
-/
namespace TR.Bucket

def E (b : Bucket) (t : Nat) : Nat :=
  if b.avail ≥ b.cap then (if b.latest < t then b.cap + 1 else b.cap)
  else min b.cap (b.avail + (t - b.latest) * b.q)

def WF (b : Bucket) (t : Nat) : Prop := 0 < b.cap ∧ 0 < b.q ∧ b.avail ≤ b.cap ∧ b.latest ≤ t

theorem wf_new (cap q : Nat) (hc : 0 < cap) (hq : 0 < q) (t : Nat) : (Bucket.new cap q).WF t :=
  ⟨hc, hq, Nat.le_refl _, Nat.zero_le _⟩

theorem wf_mono (b : Bucket) (t t' : Nat) (h : b.WF t) (htt : t ≤ t') : b.WF t' := by
  obtain ⟨a, b', c, d⟩ := h; exact ⟨a, b', c, by omega⟩

theorem E_le (b : Bucket) (t : Nat) : b.E t ≤ b.cap + 1 := by
  unfold E
  by_cases h : b.avail ≥ b.cap
  · simp only [h, if_true]; split <;> omega
  · simp only [h, if_false]; omega

theorem E_mono (b : Bucket) (t t' : Nat) (h : b.WF t) (htt : t ≤ t') :
    b.E t' ≤ b.E t + (t' - t) * b.q := by
  obtain ⟨hc, hq, ha, hl⟩ := h
  unfold E
  by_cases hf : b.avail ≥ b.cap
  · -- full: `cap`, or `cap + 1` once `latest` is stale
    simp only [hf, if_true]
    by_cases h1 : b.latest < t
    · -- stale at `t`, hence at `t'`
      have h2 : b.latest < t' := by omega
      simp only [h1, h2, if_true]; omega
    · simp only [h1, if_false]
      by_cases h2 : b.latest < t'
      · -- turns stale between `t` and `t'`: the extra token is paid for by one tick, `q ≥ 1`
        simp only [h2, if_true]
        have : 1 ≤ (t' - t) * b.q := Nat.mul_pos (by omega) hq
        omega
      · simp only [h2, if_false]; omega
  · -- not full: linear in the ticks since `latest`, up to `cap`
    simp only [hf, if_false]
    have : (t' - b.latest) * b.q = (t - b.latest) * b.q + (t' - t) * b.q := by
      rw [← Nat.add_mul, Nat.add_comm, Nat.sub_add_sub_cancel htt hl]
    omega

theorem adjust_cap (b : Bucket) (t : Nat) : (b.adjust t).cap = b.cap ∧ (b.adjust t).q = b.q := by
  unfold adjust; split <;> simp

theorem adjust_E (b : Bucket) (t : Nat) (h : b.WF t) :
    (b.adjust t).E t = b.E t ∧ (b.adjust t).WF t := by
  obtain ⟨hc, hq, ha, hl⟩ := h
  unfold adjust
  by_cases hfull : b.avail ≥ b.cap
  · simp only [hfull, if_true]; exact ⟨trivial, hc, hq, ha, hl⟩
  · simp only [hfull, if_false]
    refine ⟨?_, hc, hq, by simp only; omega, Nat.le_refl _⟩
    unfold E
    simp only [hfull, if_false, Nat.lt_irrefl, Nat.sub_self, Nat.zero_mul, Nat.add_zero]
    generalize hx : min b.cap (b.avail + (t - b.latest) * b.q) = a'
    have ha' : a' ≤ b.cap := by omega
    by_cases h2 : a' ≥ b.cap
    · simp only [h2, if_true]; omega
    · simp only [h2, if_false]; omega

theorem take1_cap (b : Bucket) (t : Nat) : (b.take1 t).1.cap = b.cap ∧ (b.take1 t).1.q = b.q := by
  have := adjust_cap b t
  unfold take1; simp only; split <;> simp [this]

theorem take1_E (b : Bucket) (t : Nat) (h : b.WF t) :
    (b.take1 t).1.E t + (b.take1 t).2 = b.E t ∧ (b.take1 t).1.WF t ∧ (b.take1 t).2 ≤ 1 := by
  obtain ⟨hc, hq, ha, hl⟩ := h
  unfold take1 adjust E WF
  by_cases hfull : b.avail ≥ b.cap
  · -- full: `adjust` does nothing, a token is taken, `latest` stays as it is
    simp only [hfull, if_true]
    have hne : ¬ b.avail = 0 := by omega
    simp only [hne, if_false]
    have hlt : ¬ (b.avail - 1 ≥ b.cap) := by omega
    simp only [hlt, if_false]
    by_cases hs : b.latest < t
    · -- `latest` stale: `cap + 1` before; after, the next `adjust` refills the `cap - 1` left to `cap`
      simp only [hs, if_true]
      have : 1 ≤ (t - b.latest) * b.q := Nat.mul_pos (by omega) hq
      refine ⟨by omega, ⟨hc, hq, by omega, hl⟩, Nat.le_refl _⟩
    · -- `latest = t`: `cap` before, `cap - 1` after
      simp only [hs, if_false]
      have : t - b.latest = 0 := by omega
      simp only [this, Nat.zero_mul]
      refine ⟨by omega, ⟨hc, hq, by omega, hl⟩, Nat.le_refl _⟩
  · -- not full: `adjust` sets `avail` to `a'` and `latest` to `t`
    simp only [hfull, if_false]
    generalize hx : min b.cap (b.avail + (t - b.latest) * b.q) = a'
    have ha' : a' ≤ b.cap := by omega
    by_cases hz : a' = 0
    · -- adjusted to 0: nothing is taken
      simp [hz]; omega
    · -- one token is taken
      simp only [hz, if_false, Nat.sub_self, Nat.zero_mul, Nat.add_zero]
      have : ¬ (a' - 1 ≥ b.cap) := by omega
      simp only [this, if_false]
      refine ⟨by omega, ⟨hc, hq, by omega, Nat.le_refl _⟩, Nat.le_refl _⟩

/-- what `Available()` returns is at most the potential -/
theorem available_le_E (b : Bucket) (t : Nat) (h : b.WF t) : (b.available t).2 ≤ b.E t := by
  obtain ⟨hc, hq, ha, hl⟩ := h
  unfold available adjust E
  by_cases hfull : b.avail ≥ b.cap
  · simp only [hfull, if_true]; split <;> omega
  · simp only [hfull, if_false]; omega

/-! Without a hypothesis on the clock: `adjust` never lowers `avail` (the subtraction of ticks is truncated), and
`TakeAvailable(1)` lowers it by what it returns, which is 0 only when there was nothing. -/

theorem adjust_avail_ge (b : Bucket) (t : Nat) : b.avail ≤ (b.adjust t).avail := by
  unfold adjust
  split
  · exact Nat.le_refl _
  · simp only; omega

theorem take1_cases (b : Bucket) (t : Nat) :
    (0 < (b.take1 t).2 ∧ b.avail ≤ (b.take1 t).1.avail + 1) ∨ (¬ 0 < (b.take1 t).2 ∧ b.avail = 0) := by
  have h := adjust_avail_ge b t
  unfold take1
  simp only
  split
  · right; simp only; omega
  · left; simp only; omega

end TR.Bucket
