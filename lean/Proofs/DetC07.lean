import Proofs.Det
/-!
# Proofs.DetC07 — the detector with a fixed threshold and no FFC refines the declarative spec

State invariant `DInv c d h n` between events (`h` = frames of the current epoch, `n` = their
number): the threshold is the configured one, no FFC flag is pending, the floored ring holds the
epoch (ghost with `n`, mark 0), and the diff ring (capacity 2) holds, in the slot that is not
current, the interior of the previous frame's diff.
-/
namespace TR
namespace DetC07
open Det
variable {F : FloatOps}

theorem count_eq (c : DCfg) (diff prev : Frame) (h : Nat → Frame) (n : Nat)
    (hd : ∀ y x, c.inI y x = true → diff y x = specDiff c h n y x)
    (hp : ∀ y x, c.inI y x = true → prev y x = specDiff c h (n - 1) y x) :
    Det.countChanged c diff (if c.useOneDiff then none else some prev) = specCount c h n := by
  unfold Det.countChanged specCount
  congr 1
  apply List.filter_congr
  intro p hpm
  have hin := DCfg.inI_of_mem hpm
  rw [hd _ _ hin]
  cases c.useOneDiff
  · simp [hp _ _ hin]
  · simp

structure DInv (c : DCfg) (d : Det F) (h : Nat → Frame) (n : Nat) : Prop where
  thresh : d.tempThresh = c.tempThresh
  aff : d.affected = false
  fl : ∃ g : Ghost Frame, RInv d.floored g ∧ g.n = n ∧ g.mark = 0 ∧ ∀ k, k < n → g.vals k = h k
  flsize : d.floored.size = c.gap + 1
  dsize : d.diffs.size = 2
  dcur : d.diffs.cur < 2
  first : d.firstDiff = false → n = 0
  prev : 1 ≤ n → ∀ y x, c.inI y x = true →
    d.diffs.slots ((d.diffs.cur + 1) % 2) y x = specDiff c h (n - 1) y x

def ext (h : Nat → Frame) (n : Nat) (f : Frame) : Nat → Frame := fun k => if k = n then f else h k

theorem inv_init (F : FloatOps) (c : DCfg) :
    DInv c (Det.init F c) (fun _ => Det.zeroFrame) 0 where
  thresh := rfl
  aff := rfl
  fl := ⟨_, inv_new (c.gap + 1) Det.zeroFrame (Nat.succ_pos _), rfl, rfl, fun _ _ => rfl⟩
  flsize := rfl
  dsize := rfl
  dcur := by simp [Det.init, Ring.new]
  first := fun _ => rfl
  prev := fun h => absurd h (by omega)

theorem inv_reset' (c : DCfg) (d : Det F) (h : Nat → Frame) (n : Nat) (inv : DInv c d h n) :
    DInv c d.reset (fun _ => Det.zeroFrame) 0 := by
  obtain ⟨g, hR, _, _, _⟩ := inv.fl
  exact {
    thresh := inv.thresh
    aff := inv.aff
    fl := ⟨_, inv_reset _ _ hR, rfl, rfl, fun k hk => absurd hk (by omega)⟩
    flsize := inv.flsize
    dsize := inv.dsize
    dcur := by simp [Det.reset, Ring.reset]
    first := fun _ => rfl
    prev := fun h => absurd h (by omega) }

/-- the frame the new one is compared with is frame `n − gap` of the extended epoch -/
theorem compare_eq (c : DCfg) (d : Det F) (h : Nat → Frame) (n : Nat) (inv : DInv c d h n)
    (f : Frame) : (d.floored.write f).oldestFrame = ext h n f (n - c.gap) := by
  obtain ⟨g, hR, hn, hm, hv⟩ := inv.fl
  have hlo : g.lo d.floored.size = n - c.gap := by
    rw [inv.flsize]
    unfold Ghost.lo
    omega
  rw [oldestFrame_write _ g f hR, hlo, hn]
  unfold ext
  split
  · rfl
  · exact hv _ (by omega)

theorem specDiff_ext (c : DCfg) (h : Nat → Frame) (n : Nat) (f : Frame) (k : Nat) (hk : k < n)
    (y x : Nat) : specDiff c (ext h n f) k y x = specDiff c h k y x := by
  have h1 : k ≠ n := by omega
  have h2 : k - c.gap ≠ n := by omega
  simp [specDiff, ext, h1, h2]

theorem step_frame (c : DCfg) (hdyn : c.dynamic = false) (hcount : 1 ≤ c.countThresh)
    (d : Det F) (h : Nat → Frame) (n : Nat) (inv : DInv c d h n) (f : Frame) :
    DInv c (Det.detect c d f false).1 (ext h n f) (n + 1) ∧
      (Det.detect c d f false).2 = specMotion c (ext h n f) n := by
  -- the new diff is the spec's (`hnd`); the fields of the invariant are then read off `wf_detect`, `gstep_*` and
  -- `Ring.prev_after`, and for `n > 0` the verdict is `Ring.prev_read` (the previous diff is the spec's) + `count_eq`
  obtain ⟨g, hR, hn, hm, hv⟩ := inv.fl
  have hq : (d.firstDiff && (false || d.affected)) = false := by simp [inv.aff]
  have ht : (pre c d f false).tempThresh = c.tempThresh := by
    rw [pre_static (by rw [hdyn]; rfl)]
    exact inv.thresh
  have hnd : ∀ y x, c.inI y x = true →
      newDiff c (pre c d f false).tempThresh d f y x = specDiff c (ext h n f) n y x := fun y x hin => by
    simp only [newDiff, hin, if_true, specDiff, compare_eq c d h n inv f, ht]
    simp [ext]
  have w := wf_detect c d f false ⟨inv.dsize, inv.dcur, inv.flsize, g, hR⟩
  refine ⟨{
      thresh := by rw [(detect_background c d f false).1, ht]
      aff := detect_affected c d f false
      fl := ⟨_, gstep_inv c d g f false hR, by rw [gstep_n, hn], by rw [gstep_mark, hq]; exact hm,
        fun k hk => ?_⟩
      flsize := w.fs
      dsize := w.ds
      dcur := w.dc
      first := fun hh => by rw [detect_firstDiff, hq] at hh; exact Bool.noConfusion hh
      prev := fun _ y x hin => by
        rw [detect_diffs, (Ring.prev_after _ _ inv.dsize inv.dcur).1, Nat.add_sub_cancel]
        exact hnd y x hin }, ?_⟩
  · rw [gstep_vals _ _ _ _ k (by omega), hn]
    unfold ext
    split
    · rfl
    · exact hv k (by omega)
  · rcases Nat.eq_zero_or_pos n with rfl | hpos
    · -- the first frame of an epoch is compared with itself
      rw [PipeC09.fresh_quiet c hcount d f false ⟨g, hR, by omega⟩]
      simp [specMotion]
    · have hfd : d.firstDiff = true := by
        cases hfd : d.firstDiff
        · exact absurd (inv.first hfd) (by omega)
        · rfl
      have hprev : ∀ y x, c.inI y x = true →
          d.diffs.slots ((d.diffs.cur + 1) % 2) y x = specDiff c (ext h n f) (n - 1) y x := fun y x hin => by
        rw [inv.prev hpos y x hin, specDiff_ext c h n f (n - 1) (by omega)]
      rw [detect_eq', hfd, inv.aff, Ring.prev_read _ _ inv.dsize, count_eq c _ _ (ext h n f) n hnd hprev]
      have : n ≥ 1 := hpos
      simp [specMotion, this]

theorem outputs_eq (c : DCfg) (hdyn : c.dynamic = false) (hcount : 1 ≤ c.countThresh)
    (evs : List DEv) (hnoffc : ∀ e ∈ evs, e.ffc = false) :
    ∀ (d : Det F) (h : Nat → Frame) (n : Nat), DInv c d h n →
      Det.outputs c d evs = specOutputs c h n evs := by
  induction evs with
  | nil => intro d h n _; rfl
  | cons e es ih =>
    intro d h n inv
    have hes : ∀ e ∈ es, e.ffc = false := fun e he => hnoffc e (List.mem_cons_of_mem _ he)
    cases e with
    | reset =>
      simp only [Det.outputs, Det.stepEv, specOutputs]
      exact ih hes _ _ _ (inv_reset' c d h n inv)
    | frame f b =>
      have hb : b = false := hnoffc (.frame f b) List.mem_cons_self
      subst hb
      obtain ⟨inv', hout⟩ := step_frame c hdyn hcount d h n inv f
      simp only [Det.outputs, Det.stepEv, specOutputs]
      rw [hout, ih hes _ _ _ inv']
      rfl

end DetC07
end TR
