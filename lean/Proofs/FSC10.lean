import TR.FS
import Proofs.Scan

/-!
# Proofs.FSC10 — helper lemmas for property C10 (only complete recordings under `.cptv` names)

Invariants of the directory model under the system calls of the recorder operations; the recorder
protocol `ValidOps`; `valid_prefix_good`: every crash point of a valid operation sequence keeps the invariant (the one
induction every C10 theorem rests on).
The glob matcher: `* lit *` matches exactly the names that contain `lit` (`glob_star_lit_star_iff`).
-/
namespace TR.C10
open TR.FS

/-- `Good P d`: nothing bad was ever done to a `.cptv` name, and every `.cptv` entry is a complete
recording whose id satisfies `P` -/
def Good (P : Nat → Prop) (d : Dir) : Prop :=
  d.bad = false ∧ ∀ p ∈ d.files, p.1.kind = Kind.F → p.2 = Status.complete ∧ P p.1.idx

theorem Good.mono {P Q : Nat → Prop} {d : Dir} (h : Good P d) (hpq : ∀ k, P k → Q k) : Good Q d :=
  ⟨h.1, fun p hp hk => ⟨(h.2 p hp hk).1, hpq _ (h.2 p hp hk).2⟩⟩

theorem Good.ok {P : Nat → Prop} {d : Dir} (h : Good P d) : d.ok = true := by
  unfold Dir.ok
  simp only [Bool.and_eq_true, Bool.not_eq_true', List.all_eq_true]
  refine ⟨h.1, fun p hp => ?_⟩
  split
  · rename_i hk
    have hk' : p.1.kind = Kind.F := by simpa using hk
    simp [(h.2 p hp hk').1]
  · rfl

theorem Good.cleanup {P : Nat → Prop} {d : Dir} (h : Good P d) :
    ∀ p ∈ d.cleanup.files, p.1.kind = Kind.F ∧ p.2 = Status.complete := by
  intro p hp
  simp only [Dir.cleanup, List.mem_filter, beq_iff_eq] at hp
  exact ⟨hp.2, (h.2 p hp.1 hp.2).1⟩

/-- system calls that never touch a `.cptv` name -/
def Neutral : Sys → Prop
  | .creat n => n.kind ≠ Kind.F
  | .write n => n.kind ≠ Kind.F
  | .close _ => True
  | .unlink _ => True
  | .rename _ _ => False

theorem Good.remove {P : Nat → Prop} {d : Dir} (h : Good P d) (n : Name) : Good P (d.remove n) := by
  refine ⟨h.1, fun p hp hk => ?_⟩
  simp only [Dir.remove, List.mem_filter] at hp
  exact h.2 p hp.1 hk

theorem Good.sealedUpd {P : Nat → Prop} {d : Dir} (h : Good P d) (s : List Nat) :
    Good P { d with sealed := s } := h

theorem Good.putNonF {P : Nat → Prop} {d : Dir} (h : Good P d) (n : Name) (st : Status)
    (hn : n.kind ≠ Kind.F) : Good P (d.put n st) := by
  refine ⟨h.1, fun p hp hk => ?_⟩
  simp only [Dir.put, List.mem_cons] at hp
  rcases hp with rfl | hp
  · exact absurd hk hn
  · exact (h.remove n).2 p hp hk

theorem neutral_step {P : Nat → Prop} {d : Dir} {s : Sys} (hs : Neutral s) (h : Good P d) :
    Good P (d.step s) := by
  cases s with
  | creat n =>
    have hn : n.kind ≠ Kind.F := hs
    have hF : (n.kind == Kind.F) = false := by simpa using hn
    simp only [Dir.step, hF, Bool.false_eq_true, if_false]
    split
    · exact Good.putNonF (d := { d with sealed := _ }) h n _ hn
    · exact h.putNonF n _ hn
  | write n =>
    have hn : n.kind ≠ Kind.F := hs
    have hF : (n.kind == Kind.F) = false := by simpa using hn
    simp only [Dir.step, hF, Bool.false_eq_true, if_false]
    split <;> exact h
  | close n =>
    simp only [Dir.step]
    split <;> exact h
  | unlink n => exact h.remove n
  | rename a b => exact absurd hs (by simp [Neutral])

theorem neutral_run {P : Nat → Prop} {l : List Sys} : ∀ {d : Dir}, (∀ s ∈ l, Neutral s) →
    Good P d → Good P (d.run l) := by
  induction l with
  | nil => intro d _ h; exact h
  | cons a l ih =>
    intro d hl h
    exact ih (fun s hs => hl s (List.mem_cons_of_mem _ hs))
      (neutral_step (hl a (List.mem_cons_self ..)) h)

theorem neutral_prefix {P : Nat → Prop} {l pre : List Sys} {d : Dir} (hl : ∀ s ∈ l, Neutral s)
    (h : Good P d) (hp : pre <+: l) : Good P (d.run pre) :=
  neutral_run (fun s hs => hl s (hp.subset hs)) h

theorem run_append (d : Dir) (a b : List Sys) : d.run (a ++ b) = (d.run a).run b := by
  simp [Dir.run, List.foldl_append]

/-- the one non-neutral call of the protocol: renaming a sealed `T` onto its fresh final name -/
theorem rename_step {P : Nat → Prop} {d : Dir} {i : Nat} (h : Good P d) (hi : ¬ P i)
    (hs : i ∈ d.sealed) :
    Good (fun k => P k ∨ k = i) (d.step (.rename ⟨i, .T⟩ ⟨i, .F⟩)) := by
  have hhas : d.has ⟨i, .F⟩ = false := by
    simp only [Dir.has, List.any_eq_false, beq_iff_eq]
    intro p hp hpn
    exact hi (by simpa [hpn] using (h.2 p hp (by simp [hpn])).2)
  have hc : d.sealed.contains i = true := by simpa using hs
  simp only [Dir.step, hc, hhas, beq_self_eq_true, Bool.and_self, Bool.not_false, Bool.not_true,
    Bool.false_eq_true, if_false, if_true, Bool.and_false]
  refine ⟨h.1, fun p hp hk => ?_⟩
  simp only [Dir.put, List.mem_cons] at hp
  rcases hp with rfl | hp
  · exact ⟨rfl, Or.inr rfl⟩
  · have := ((h.remove ⟨i, .T⟩).remove ⟨i, .F⟩).2 p hp hk
    exact ⟨this.1, Or.inl this.2⟩

/-- the calls of `stop` before the rename -/
def stopHead (i : Nat) : List Sys :=
  [.write ⟨i, .S⟩, .write ⟨i, .T⟩, .close ⟨i, .T⟩, .close ⟨i, .S⟩, .unlink ⟨i, .S⟩]

theorem stopHead_neutral (i : Nat) : ∀ s ∈ stopHead i, Neutral s := by
  intro s hs
  simp only [stopHead, List.mem_cons, List.not_mem_nil, or_false] at hs
  rcases hs with rfl | rfl | rfl | rfl | rfl <;> simp [Neutral]

/-- after the head of `stop`, `T i` is sealed: `close T` is not followed by a creat/write of `T i` -/
theorem stopHead_sealed (d : Dir) (i : Nat) : i ∈ (d.run (stopHead i)).sealed := by
  simp [Dir.run, stopHead, Dir.step, Dir.remove]

theorem steps_neutral {op : Op} (h : ∀ i, op ≠ .stop i) : ∀ s ∈ op.steps, Neutral s := by
  cases op with
  | stop i => exact absurd rfl (h i)
  | _ =>
    simp only [Op.steps, startSteps, writeSteps, discardSteps, startFailSteps, List.mem_cons, List.not_mem_nil,
      or_false, forall_eq_or_imp, forall_eq, Neutral]
    decide

/-- crash points inside ONE operation: nothing changes under `.cptv` names, except that the last call of
`stop i` (the rename, legal because `T i` was just sealed and `i` has no `.cptv` entry yet) adds the entry of `i` -/
theorem op_prefix {P : Nat → Prop} {d : Dir} {op : Op} (h : Good P d) (hi : ∀ i, op = .stop i → ¬ P i)
    {pre : List Sys} (hp : pre <+: op.steps) : Good (fun k => P k ∨ op = .stop k) (d.run pre) := by
  by_cases hs : ∃ i, op = .stop i
  · obtain ⟨i, rfl⟩ := hs
    have hp' : pre <+: stopHead i ++ [.rename ⟨i, .T⟩ ⟨i, .F⟩] := hp
    rw [List.prefix_concat_iff] at hp'
    rcases hp' with rfl | hp'
    · rw [run_append]
      exact (rename_step (neutral_run (stopHead_neutral i) h) (hi i rfl) (stopHead_sealed d i)).mono
        fun k hk => hk.imp_right fun e => congrArg Op.stop e.symm
    · exact (neutral_prefix (stopHead_neutral i) h hp').mono fun _ => Or.inl
  · exact (neutral_prefix (steps_neutral fun i e => hs ⟨i, e⟩) h hp).mono fun _ => Or.inl

/-- the crash-point property: nothing bad happened to a `.cptv` name and every `.cptv` entry is complete -/
def Safe (d : Dir) : Prop := Good (fun _ => True) d

/-- invariant at operation boundaries (`opn` = ids of open recordings, `used` = ids ever started): open
ids are distinct and were started; nothing bad happened to a `.cptv` name; every `.cptv` entry is
complete and belongs to a started recording that is no longer open -/
def Boundary (opn used : List Nat) (d : Dir) : Prop :=
  opn.Nodup ∧ (∀ i ∈ opn, i ∈ used) ∧ Good (fun k => k ∈ used ∧ k ∉ opn) d

theorem boundary_init : Boundary [] [] {} :=
  ⟨List.nodup_nil, fun _ h => absurd h List.not_mem_nil, rfl, fun _ h => absurd h List.not_mem_nil⟩

/-- `ValidOps opn used ops`: `opn` = ids of recordings currently open, `used` = all ids ever started -/
inductive ValidOps : List Nat → List Nat → List Op → Prop
  | nil {opn used} : ValidOps opn used []
  | start {opn used i ops} : i ∉ used → ValidOps (i :: opn) (i :: used) ops → ValidOps opn used (.start i :: ops)
  | write {opn used i ops} : i ∈ opn → ValidOps opn used ops → ValidOps opn used (.write i :: ops)
  | stop {opn used i ops} : i ∈ opn → ValidOps (opn.erase i) used ops → ValidOps opn used (.stop i :: ops)
  | discard {opn used i ops} : i ∈ opn → ValidOps (opn.erase i) used ops → ValidOps opn used (.discard i :: ops)
  | startFail {opn used i ops} : i ∉ used → ValidOps opn (i :: used) ops → ValidOps opn used (.startFail i :: ops)

end TR.C10

namespace TR.C10Gen
open TR.FS

/-- ids started in an operation list (`start` and `startFail`) -/
def startedIds : List Op → List Nat
  | [] => []
  | .start i :: ops => i :: startedIds ops
  | .startFail i :: ops => i :: startedIds ops
  | _ :: ops => startedIds ops

end TR.C10Gen

namespace TR.C10
open TR.FS TR.C10Gen

/-- one operation `op` from a boundary state, then the rest: if the boundary invariant holds again after `op` for
the new lists (`hP`: what happens to the ids without and with a `.cptv` entry), a crash point of `op :: ops` lies
inside `op` or inside the rest -/
theorem seq_good {opn used opn' used' : List Nat} {op : Op} {ops : List Op} {d : Dir} {Q : Nat → Prop}
    (hg : Good (fun k => k ∈ used ∧ k ∉ opn) d) (hi : ∀ i, op = .stop i → i ∈ opn)
    (hnd : opn'.Nodup) (hsub : ∀ i ∈ opn', i ∈ used')
    (hP : ∀ k, (k ∈ used ∧ k ∉ opn) ∨ op = .stop k → k ∈ used' ∧ k ∉ opn') (hQ : ∀ k ∈ used', Q k)
    (ih : ∀ d', Boundary opn' used' d' → ∀ pre, pre <+: ops.flatMap Op.steps → Good Q (d'.run pre))
    {pre : List Sys} (hp : pre <+: (op :: ops).flatMap Op.steps) : Good Q (d.run pre) := by
  have hin := fun pre hp => (op_prefix (pre := pre) hg (fun i e h => h.2 (hi i e)) hp).mono hP
  rw [List.flatMap_cons] at hp
  rcases prefix_append_cases hp with h1 | ⟨t, rfl, ht⟩
  · exact (hin pre h1).mono fun k hk => hQ k hk.1
  · rw [run_append]; exact ih _ ⟨hnd, hsub, hin _ List.prefix_rfl⟩ t ht

/-- **every crash point of a valid operation sequence, from any boundary state**: every `.cptv` entry is complete,
never written in place, and belongs to a recording started before (`used`) or during (`startedIds ops`) the
sequence — stated for any `Q` that holds of these ids -/
theorem valid_prefix_good {opn used : List Nat} {ops : List Op} (h : ValidOps opn used ops) :
    ∀ {d : Dir}, Boundary opn used d → ∀ {Q : Nat → Prop}, (∀ k ∈ used, Q k) → (∀ k ∈ startedIds ops, Q k) →
      ∀ {pre : List Sys}, pre <+: ops.flatMap Op.steps → Good Q (d.run pre) := by
  induction h with
  | nil =>
    intro d hb Q hu _ pre hp
    have : pre = [] := by simpa using hp
    subst this
    exact hb.2.2.mono fun k hk => hu k hk.1
  | @start opn used i _ hi _ ih =>
    intro d ⟨hnd, hsub, hg⟩ Q hu hs pre hp
    have hu' : ∀ k ∈ i :: used, Q k := List.forall_mem_cons.2 ⟨hs i (List.mem_cons_self ..), hu⟩
    refine seq_good hg (fun _ e => Op.noConfusion e) (List.nodup_cons.2 ⟨fun h => hi (hsub i h), hnd⟩)
      (fun k hk => ?_) (fun k hk => ?_) hu' (fun d' hb' pre hp => ih hb' hu' (fun k hk => hs k (List.mem_cons_of_mem _ hk)) hp) hp
    · exact (List.mem_cons.1 hk).elim (fun e => e ▸ List.mem_cons_self ..) fun h => List.mem_cons_of_mem _ (hsub k h)
    · rcases hk with hk | e
      · exact ⟨List.mem_cons_of_mem _ hk.1, fun h => (List.mem_cons.1 h).elim (fun e => hi (e ▸ hk.1)) hk.2⟩
      · cases e
  | write _ _ ih =>
    intro d ⟨hnd, hsub, hg⟩ Q hu hs pre hp
    exact seq_good hg (fun _ e => Op.noConfusion e) hnd hsub (fun k hk => hk.elim id fun e => Op.noConfusion e) hu
      (fun d' hb' pre hp => ih hb' hu hs hp) hp
  | @stop opn used i _ hi _ ih =>
    intro d ⟨hnd, hsub, hg⟩ Q hu hs pre hp
    refine seq_good hg (fun _ e => by cases e; exact hi) (hnd.erase i) (fun k hk => hsub k (List.mem_of_mem_erase hk))
      (fun k hk => ?_) hu (fun d' hb' pre hp => ih hb' hu hs hp) hp
    rcases hk with hk | e
    · exact ⟨hk.1, fun h => hk.2 (List.mem_of_mem_erase h)⟩
    · cases e; exact ⟨hsub _ hi, fun h => ((hnd.mem_erase_iff).1 h).1 rfl⟩
  | @discard opn used i _ _ _ ih =>
    intro d ⟨hnd, hsub, hg⟩ Q hu hs pre hp
    exact seq_good hg (fun _ e => Op.noConfusion e) (hnd.erase i) (fun k hk => hsub k (List.mem_of_mem_erase hk))
      (fun k hk => hk.elim (fun hk => ⟨hk.1, fun h => hk.2 (List.mem_of_mem_erase h)⟩) fun e => Op.noConfusion e) hu
      (fun d' hb' pre hp => ih hb' hu hs hp) hp
  | @startFail opn used i _ _ _ ih =>
    intro d ⟨hnd, hsub, hg⟩ Q hu hs pre hp
    have hu' : ∀ k ∈ i :: used, Q k := List.forall_mem_cons.2 ⟨hs i (List.mem_cons_self ..), hu⟩
    exact seq_good hg (fun _ e => Op.noConfusion e) hnd (fun k hk => List.mem_cons_of_mem _ (hsub k hk))
      (fun k hk => hk.elim (fun hk => ⟨List.mem_cons_of_mem _ hk.1, hk.2⟩) fun e => Op.noConfusion e) hu'
      (fun d' hb' pre hp => ih hb' hu' (fun k hk => hs k (List.mem_cons_of_mem _ hk)) hp) hp

theorem glob_star_nil (ps : List Char) : globMatch ('*' :: ps) [] = globMatch ps [] := by
  rw [globMatch]

theorem glob_star_cons (ps : List Char) (c : Char) (cs : List Char) :
    globMatch ('*' :: ps) (c :: cs) = (globMatch ps (c :: cs) || globMatch ('*' :: ps) cs) := by
  rw [globMatch]

theorem glob_lit_nil (p : Char) (ps : List Char) (hp : p ≠ '*') : globMatch (p :: ps) [] = false := by
  rw [globMatch]
  intro h
  exact hp h

theorem glob_lit_cons (p : Char) (ps : List Char) (c : Char) (cs : List Char) (hp : p ≠ '*') :
    globMatch (p :: ps) (c :: cs) = (p == c && globMatch ps cs) := by
  rw [globMatch]
  intro h
  exact hp h

theorem glob_lit_inv (lit ps s : List Char) (hl : ∀ c ∈ lit, c ≠ '*')
    (h : globMatch (lit ++ ps) s = true) : ∃ t, s = lit ++ t ∧ globMatch ps t = true := by
  induction lit generalizing s with
  | nil => exact ⟨s, rfl, h⟩
  | cons c lit ih =>
    have hc : c ≠ '*' := hl c (List.mem_cons_self ..)
    cases s with
    | nil => rw [List.cons_append, glob_lit_nil _ _ hc] at h; exact absurd h (by simp)
    | cons x xs =>
      rw [List.cons_append, glob_lit_cons _ _ _ _ hc, Bool.and_eq_true, beq_iff_eq] at h
      obtain ⟨t, rfl, ht⟩ := ih xs (fun y hy => hl y (List.mem_cons_of_mem _ hy)) h.2
      exact ⟨t, by rw [h.1]; rfl, ht⟩

theorem glob_star_empty (ps s : List Char) (h : globMatch ps s = true) :
    globMatch ('*' :: ps) s = true := by
  cases s with
  | nil => rw [glob_star_nil]; exact h
  | cons c cs => rw [glob_star_cons, h, Bool.true_or]

/-- a leading `*` stands for some prefix of the subject -/
theorem glob_star_iff (ps s : List Char) :
    globMatch ('*' :: ps) s = true ↔ ∃ a b, s = a ++ b ∧ globMatch ps b = true := by
  constructor
  · intro h
    induction s with
    | nil => exact ⟨[], [], rfl, glob_star_nil ps ▸ h⟩
    | cons x xs ih =>
      rw [glob_star_cons, Bool.or_eq_true] at h
      rcases h with h | h
      · exact ⟨[], _, rfl, h⟩
      · obtain ⟨a, b, rfl, hb⟩ := ih h
        exact ⟨x :: a, b, rfl, hb⟩
  · rintro ⟨a, b, rfl, hb⟩
    induction a with
    | nil => exact glob_star_empty ps b hb
    | cons c a ih => rw [List.cons_append, glob_star_cons, ih, Bool.or_true]

theorem glob_star_all (s : List Char) : globMatch ['*'] s = true :=
  (glob_star_iff [] s).2 ⟨s, [], (List.append_nil s).symm, by rw [globMatch]⟩

/-- a leading `*` may match one character (whatever it is, a `'*'` of the subject included) -/
theorem glob_star_one (ps : List Char) (c : Char) (s : List Char) (h : globMatch ps s = true) :
    globMatch ('*' :: ps) (c :: s) = true := by
  rw [glob_star_cons, glob_star_empty ps s h, Bool.or_true]

/-- a pattern matches itself followed by whatever the rest of the pattern matches; no hypothesis on
`lit`: a `'*'` inside `lit` is a wildcard, and a wildcard matches a `'*'` of the subject too -/
theorem glob_self_prefix (lit ps s : List Char) (h : globMatch ps s = true) :
    globMatch (lit ++ ps) (lit ++ s) = true := by
  induction lit with
  | nil => exact h
  | cons c lit ih =>
    by_cases hc : c = '*'
    · subst hc
      exact glob_star_one _ _ _ ih
    · rw [List.cons_append, List.cons_append, glob_lit_cons _ _ _ _ hc, ih]
      simp

theorem glob_of_infix (lit s : List Char) (h : lit <:+: s) :
    globMatch ('*' :: (lit ++ ['*'])) s = true := by
  obtain ⟨a, b, rfl⟩ := h
  exact (glob_star_iff _ _).2 ⟨a, lit ++ b, List.append_assoc .., glob_self_prefix lit ['*'] b (glob_star_all b)⟩

theorem infix_of_glob (lit : List Char) (hl : ∀ c ∈ lit, c ≠ '*') (s : List Char)
    (h : globMatch ('*' :: (lit ++ ['*'])) s = true) : lit <:+: s := by
  obtain ⟨a, b, rfl, hb⟩ := (glob_star_iff _ _).1 h
  obtain ⟨t, rfl, _⟩ := glob_lit_inv lit ['*'] b hl hb
  exact ⟨a, t, List.append_assoc ..⟩

theorem glob_star_lit_star_iff (lit : List Char) (hl : ∀ c ∈ lit, c ≠ '*') (s : List Char) :
    globMatch ('*' :: (lit ++ ['*'])) s = true ↔ lit <:+: s :=
  ⟨infix_of_glob lit hl s, glob_of_infix lit s⟩

theorem glob_star_lit_suffix (lit : List Char) (hl : ∀ c ∈ lit, c ≠ '*') (s : List Char)
    (h : globMatch ('*' :: lit) s = true) : lit <:+ s := by
  obtain ⟨a, b, rfl, hb⟩ := (glob_star_iff _ _).1 h
  obtain ⟨t, rfl, hm⟩ := glob_lit_inv lit [] b hl (by rwa [List.append_nil])
  cases t with
  | nil => rw [List.append_nil]; exact List.suffix_append a lit
  | cons _ _ => rw [globMatch] at hm; cases hm

/-- the literal part `.cptv.temp` of the clean-up pattern -/
def tempLit : List Char := ['.', 'c', 'p', 't', 'v', '.', 't', 'e', 'm', 'p']

theorem tempLit_nostar : ∀ c ∈ tempLit, c ≠ '*' := by decide

end TR.C10
