import Proofs.MonStep
/-!
# Proofs.C04Spec — what acceptance by the C04 monitor means, as a plain statement about positions

`monC04` (`TR.ProcMon`) folds the state machine `M4.step` over an observed trace.  Here the monitor is
characterised, for EVERY trace, by a statement that does not mention it.  What ONE step does (`Step.startsRec`,
`Step.endsRec`, `nextOpen`, `resetsRun`, `nextRun`, `attemptB`) is defined in `Proofs.MonStep`, next to the
monitor's step; here are the notions over a whole trace.

* `openAfter tr` — a motion recording is open after the steps `tr` (`openBefore_spec` in `Props.C04Spec`: some step
  begins one and neither it nor any later step ends it); `openBefore tr i = openAfter (tr.take i)`;
* `resetsRun o s` — the step ends the current run of motion frames: a frame without motion, or the end of a
  recording; `runAfter tr` — the number of motion frames after the last such step (`runBefore_count`,
  `runBefore_exists`); `runBefore tr i = runAfter (tr.take i)`;
* `attempt trig tr i motion` — a start attempt is due at step `i`;
* `StartRule trig tr` — at every frame step the three clauses (a) (b) (c) of the module doc of `Props.C04Spec`;
* `fold_monitor`: the monitor is the scan of `stepOk` along (`nextOpen`, `nextRun`); with `startRule_iff` this
  gives `monC04_iff : monC04 trig tr = [] ↔ StartRule trig tr` (`Props.C04Spec`).
-/
namespace TR.C04Spec

/-- "a motion recording is open" after the steps `l`, when it was `o` before them -/
def openFrom (o : Bool) (l : List Step) : Bool := l.foldl nextOpen o

/-- a motion recording is open after the steps `tr` (initially none is); see `openBefore_spec` (`Props.C04Spec`) -/
def openAfter (tr : List Step) : Bool := openFrom false tr

def openBefore (tr : List Step) (i : Nat) : Bool := openAfter (tr.take i)

/-- the run length after the steps `l`, when before them the flag was `o` and the run length `r` -/
def runFrom : Bool → Nat → List Step → Nat
  | _, r, [] => r
  | o, r, s :: rest => runFrom (nextOpen o s) (nextRun o r s) rest

/-- the number of consecutive motion frames at the end of `tr`, counted from the last frame without motion
or the last end of a recording; see `runBefore_count` -/
def runAfter (tr : List Step) : Nat := runFrom false 0 tr

def runBefore (tr : List Step) (i : Nat) : Nat := runAfter (tr.take i)

/-- a start attempt is due at step `i` (a frame with motion bit `motion`) -/
def attempt (trig : Nat) (tr : List Step) (i : Nat) (motion : Bool) : Bool :=
  attemptB trig (openBefore tr i) (runBefore tr i) motion

/-- **the plain rule**, position by position: at every frame step
(a) a recording starts iff an attempt is due, the window is open, the disk check passes and the start succeeds;
(b) the disk check is consulted only if an attempt is due and the window is open;
(c) `StartRecording` is called only if moreover the disk check passes. -/
def StartRule (trig : Nat) (tr : List Step) : Prop :=
  ∀ i (h : i < tr.length) (motion : Bool) (f : Faults), tr[i].ev = .frame motion f →
    (hasStartOk tr[i].obs = true ↔
      (attempt trig tr i motion = true ∧ f.win = true ∧ f.can = true ∧ f.mStart = true)) ∧
    (hasCan tr[i].obs = true → attempt trig tr i motion = true ∧ f.win = true) ∧
    (hasStartAny tr[i].obs = true → attempt trig tr i motion = true ∧ f.win = true ∧ f.can = true)

theorem attempt_iff (trig : Nat) (tr : List Step) (i : Nat) (motion : Bool) :
    attempt trig tr i motion = true ↔
      openBefore tr i = false ∧ motion = true ∧ trig ≤ runBefore tr i + 1 := by
  rw [attempt, attemptB]
  cases openBefore tr i <;> cases motion <;> simp

/-- the pair (flag, run length), one step on -/
def next (p : Bool × Nat) (s : Step) : Bool × Nat := (nextOpen p.1 s, nextRun p.1 p.2 s)

theorem foldl_next : ∀ (l : List Step) (o : Bool) (r : Nat),
    l.foldl next (o, r) = (openFrom o l, runFrom o r l) := by
  intro l
  induction l with
  | nil => intro o r; rfl
  | cons a l ih => intro o r; exact ih _ _

theorem openBefore_zero (tr : List Step) : openBefore tr 0 = false := rfl
theorem runBefore_zero (tr : List Step) : runBefore tr 0 = 0 := rfl

theorem before_succ (tr : List Step) (i : Nat) (h : i < tr.length) :
    (openBefore tr (i + 1), runBefore tr (i + 1)) = next (openBefore tr i, runBefore tr i) tr[i] := by
  have := foldl_take_succ next (false, 0) tr i h
  rw [foldl_next, foldl_next] at this
  exact this

theorem openBefore_succ (tr : List Step) (i : Nat) (h : i < tr.length) :
    openBefore tr (i + 1) = nextOpen (openBefore tr i) tr[i] :=
  congrArg Prod.fst (before_succ tr i h)

theorem runBefore_succ (tr : List Step) (i : Nat) (h : i < tr.length) :
    runBefore tr (i + 1) = nextRun (openBefore tr i) (runBefore tr i) tr[i] :=
  congrArg Prod.snd (before_succ tr i h)

theorem openBefore_length (tr : List Step) : openBefore tr tr.length = openAfter tr := by
  rw [openBefore, List.take_length]

theorem runBefore_length (tr : List Step) : runBefore tr tr.length = runAfter tr := by
  rw [runBefore, List.take_length]

/-- step `k` of `tr` ends the run of motion frames -/
def resetsAt (tr : List Step) (k : Nat) : Bool :=
  match tr[k]? with
  | some s => resetsRun (openBefore tr k) s
  | none => false

/-- the number of frames with motion among the steps `j ≤ k < i` -/
def motionFrames (tr : List Step) (j i : Nat) : Nat := ((tr.take i).drop j).countP (·.ev.motion)

theorem resetsAt_eq (tr : List Step) (k : Nat) (h : k < tr.length) :
    resetsAt tr k = resetsRun (openBefore tr k) tr[k] := by
  simp only [resetsAt, List.getElem?_eq_getElem h]

theorem runBefore_of_reset (tr : List Step) (k : Nat) (h : resetsAt tr k = true) :
    runBefore tr (k + 1) = 0 := by
  by_cases hk : k < tr.length
  · rw [resetsAt_eq tr k hk] at h
    rw [runBefore_succ tr k hk, nextRun, if_pos h]
  · simp only [resetsAt, List.getElem?_eq_none (Nat.le_of_not_lt hk)] at h
    cases h

theorem runBefore_of_noReset (tr : List Step) (k : Nat) (hk : k < tr.length) (h : resetsAt tr k = false) :
    runBefore tr (k + 1) = runBefore tr k + (if tr[k].ev.motion then 1 else 0) := by
  rw [resetsAt_eq tr k hk] at h
  rw [runBefore_succ tr k hk, nextRun, h]
  simp only [Bool.false_eq_true, if_false]
  split <;> rfl

theorem motionFrames_self (tr : List Step) (j : Nat) : motionFrames tr j j = 0 := by
  have : (tr.take j).drop j = [] := by
    apply List.drop_eq_nil_of_le
    rw [List.length_take]; exact Nat.min_le_left _ _
  rw [motionFrames, this]; rfl

theorem motionFrames_succ (tr : List Step) (j i : Nat) (hji : j ≤ i) (hi : i < tr.length) :
    motionFrames tr j (i + 1) = motionFrames tr j i + (if tr[i].ev.motion then 1 else 0) := by
  have hl : j ≤ (tr.take i).length := by
    rw [List.length_take]; exact Nat.le_min.mpr ⟨hji, Nat.le_trans hji (Nat.le_of_lt hi)⟩
  simp only [motionFrames]
  rw [← List.take_append_getElem hi, List.drop_append_of_le_length hl, List.countP_append]
  simp only [List.countP_cons, List.countP_nil, Nat.zero_add]

/-- **`runBefore` in words**: if step `j - 1` ended a run (or `j = 0`) and no step `j ≤ k < i` does, then the
run before step `i` is the number of motion frames among the steps `j ≤ k < i` -/
theorem runBefore_count (tr : List Step) (j i : Nat) (hj : j = 0 ∨ resetsAt tr (j - 1) = true)
    (hji : j ≤ i) (hi : i ≤ tr.length) (hno : ∀ k, j ≤ k → k < i → resetsAt tr k = false) :
    runBefore tr i = motionFrames tr j i := by
  induction i with
  | zero => obtain rfl := Nat.le_zero.mp hji; rw [motionFrames_self]; rfl
  | succ i ih =>
    rcases Nat.lt_or_ge i j with h | h
    · obtain rfl : j = i + 1 := Nat.le_antisymm hji h
      rw [motionFrames_self]
      exact runBefore_of_reset tr i (hj.resolve_left (Nat.succ_ne_zero _))
    · rw [runBefore_of_noReset tr i hi (hno i h (Nat.lt_succ_self _)), motionFrames_succ tr j i h hi,
        ih h (Nat.le_of_lt hi) (fun k h1 h2 => hno k h1 (Nat.lt_succ_of_lt h2))]

/-- such a position `j` always exists (one past the last step that ended a run, or 0) -/
theorem runBefore_exists (tr : List Step) : ∀ i, i ≤ tr.length →
    ∃ j, j ≤ i ∧ (j = 0 ∨ resetsAt tr (j - 1) = true) ∧ (∀ k, j ≤ k → k < i → resetsAt tr k = false) ∧
      runBefore tr i = motionFrames tr j i := by
  intro i
  induction i with
  | zero =>
    intro _
    exact ⟨0, Nat.le_refl _, Or.inl rfl, fun k _ h => absurd h (Nat.not_lt_zero _), rfl⟩
  | succ i ih =>
    intro hi
    cases hr : resetsAt tr i with
    | true =>
      refine ⟨i + 1, Nat.le_refl _, Or.inr hr, fun k h1 h2 => absurd h1 (Nat.not_le_of_lt h2), ?_⟩
      rw [runBefore_of_reset tr i hr, motionFrames_self]
    | false =>
      obtain ⟨j, hji, hj, hno, _⟩ := ih (Nat.le_of_succ_le hi)
      have hno' : ∀ k, j ≤ k → k < i + 1 → resetsAt tr k = false := by
        intro k h1 h2
        rcases Nat.lt_succ_iff_lt_or_eq.mp h2 with h | rfl
        · exact hno k h1 h
        · exact hr
      exact ⟨j, Nat.le_succ_of_le hji, hj, hno',
        runBefore_count tr j (i + 1) hj (Nat.le_succ_of_le hji) hi hno'⟩

/-- executable `StartRule` -/
def startRuleB (trig : Nat) (tr : List Step) : Bool := scanAll next (stepOk trig) (false, 0) tr

theorem startRule_iff (trig : Nat) (tr : List Step) : StartRule trig tr ↔ startRuleB trig tr = true := by
  rw [startRuleB, scanAll_iff]
  refine forall_congr' fun i => forall_congr' fun hi => ?_
  rw [foldl_next]
  show _ ↔ stepOk trig (openBefore tr i, runBefore tr i) tr[i] = true
  unfold stepOk
  split
  · next motion f he =>
    rw [decide_eq_true_iff]
    exact ⟨fun h => h motion f he, fun h motion' f' he' => by
      obtain ⟨rfl, rfl⟩ := Ev.frame.inj (he.symm.trans he'); exact h⟩
  · next hne => exact ⟨fun _ => rfl, fun _ motion f he => absurd he (hne motion f)⟩

instance (trig : Nat) (tr : List Step) : Decidable (StartRule trig tr) :=
  decidable_of_iff _ (startRule_iff trig tr).symm

/-- the monitor's state is (`openFrom`, `runFrom`) of the steps processed so far, and it reports nothing iff
it had reported nothing and the rule holds along them -/
theorem fold_monitor (trig : Nat) (tr : List Step) (m : M4) :
    ((tr.foldl (M4.step trig) m).openRec, (tr.foldl (M4.step trig) m).run) =
      (openFrom m.openRec tr, runFrom m.openRec m.run tr) ∧
    ((tr.foldl (M4.step trig) m).fails = [] ↔
      m.fails = [] ∧ scanAll next (stepOk trig) (m.openRec, m.run) tr = true) := by
  rw [← foldl_next]
  exact monitor_fold (M4.step trig) (fun m => (m.openRec, m.run)) (·.fails) next (stepOk trig)
    (fun m s => Prod.ext (M4.step_open trig m s) (M4.step_run trig m s)) (M4.step_fails trig) tr m

end TR.C04Spec
