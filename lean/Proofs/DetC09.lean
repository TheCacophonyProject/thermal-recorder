import Proofs.Det
/-!
# Proofs.DetC09 — C09: independence of the frames before an FFC period / a reset

Two runs on the SAME events from two states that differ in what earlier frames left behind.
`Shape`: what depends on the skeleton of the past only (flags, counters, ring positions, with
ghosts of the floored rings); `DynOK`: the background state agrees on the interior; `Rel`: each
content-dependent part of the state agrees or will not be read before it is overwritten.  Every common
frame keeps `Rel` and gets the same verdict (`rel_frame`, `rel_run`).  `Rel` holds after a `Reset` of two
reachable detectors with the same two flags (`outputs_after_reset`), and after an FFC-affected frame on
two of the same shape (`rel_pivot`, `shape_after`, `outputs_after_ffc`).
-/
namespace TR

/-- same constructors and FFC flags, arbitrary (different) frame contents -/
inductive C09.SameShape : List DEv → List DEv → Prop
  | nil : SameShape [] []
  | frame {f g : Frame} {ffc : Bool} {as bs} :
      SameShape as bs → SameShape (.frame f ffc :: as) (.frame g ffc :: bs)
  | reset {as bs} : SameShape as bs → SameShape (.reset :: as) (.reset :: bs)

/-- `(firstDiff, affected)` after one detector event -/
def PipeC09.flagStep (fl : Bool × Bool) : DEv → Bool × Bool
  | .frame _ ffc => (!(fl.1 && (ffc || fl.2)), ffc)
  | .reset => fl

/-- `(firstDiff, affected)` after a list of detector events from a fresh detector: a function of the SHAPE of the
list (constructors and FFC flags) only — `firstDiff` is false until the first frame and toggles while an FFC
period lasts, `affected` is the FFC flag of the last frame; `Reset` changes neither -/
def PipeC09.flagsAfter (evs : List DEv) : Bool × Bool := evs.foldl PipeC09.flagStep (false, false)

namespace P09
open TR.Det PipeC09
open C08 (IntEq)
open C09 (SameShape)

variable {F : FloatOps}

theorem reset_affected (d : Det F) : d.reset.affected = d.affected := rfl

theorem SameShape.skel {as bs : List DEv} (h : SameShape as bs) : SameSkel (fun _ _ => True) as bs := by
  induction h with
  | nil => exact .nil
  | frame _ ih => exact .frame trivial ih
  | reset _ ih => exact .reset ih

theorem sameShape_flags {as bs : List DEv} (h : SameShape as bs) (fl : Bool × Bool) :
    as.foldl flagStep fl = bs.foldl flagStep fl := by
  induction h generalizing fl with
  | nil => rfl
  | frame _ ih => exact ih _
  | reset _ ih => exact ih _

theorem sameShape_noReset {as bs : List DEv} (h : SameShape as bs) (hn : ∀ e ∈ as, e ≠ DEv.reset) :
    ∀ e ∈ bs, e ≠ DEv.reset := by
  induction h with
  | nil => exact fun _ he => absurd he List.not_mem_nil
  | frame _ ih =>
    intro e he
    rcases List.mem_cons.mp he with rfl | he
    · exact fun h' => DEv.noConfusion h'
    · exact ih (fun e he => hn e (List.mem_cons_of_mem _ he)) e he
  | reset _ _ => exact absurd rfl (hn _ List.mem_cons_self)

theorem after_flags (c : DCfg) (evs : List DEv) (d : Det F) :
    ((after c d evs).firstDiff, (after c d evs).affected) = evs.foldl flagStep (d.firstDiff, d.affected) := by
  induction evs generalizing d with
  | nil => rfl
  | cons e es ih =>
    cases e with
    | frame f ffc =>
      simp only [after, stepEv, List.foldl_cons, flagStep]
      rw [ih, detect_firstDiff, detect_affected]
    | reset => exact ih _

structure Shape (c : DCfg) (dA dB : Det F) (gA gB : Ghost Frame) : Prop where
  wA : Wf c dA
  wB : Wf c dB
  fd : dA.firstDiff = dB.firstDiff
  aff : dA.affected = dB.affected
  bf : dA.backgroundFrames = dB.backgroundFrames
  rA : RInv dA.floored gA
  rB : RInv dB.floored gB
  gn : gA.n = gB.n
  gm : gA.mark = gB.mark

theorem shape_step (c : DCfg) (dA dB : Det F) (gA gB : Ghost Frame) (f g : Frame) (ffc : Bool)
    (sh : Shape c dA dB gA gB) :
    Shape c (detect c dA f ffc).1 (detect c dB g ffc).1 (gstep dA gA f ffc) (gstep dB gB g ffc) := by
  refine ⟨wf_detect c dA f ffc sh.wA, wf_detect c dB g ffc sh.wB, ?_, ?_, ?_,
    gstep_inv c dA gA f ffc sh.rA, gstep_inv c dB gB g ffc sh.rB, ?_, ?_⟩
  · rw [detect_firstDiff, detect_firstDiff, sh.fd, sh.aff]
  · rw [detect_affected, detect_affected]
  · rw [detect_backgroundFrames, detect_backgroundFrames, sh.bf]
  · rw [gstep_n, gstep_n, sh.gn]
  · rw [gstep_mark, gstep_mark, sh.fd, sh.aff, sh.gn, sh.gm]

theorem shape_reset (c : DCfg) (dA dB : Det F) (gA gB : Ghost Frame) (sh : Shape c dA dB gA gB) :
    Shape c dA.reset dB.reset (Ghost.reset (dA.floored.slots 0)) (Ghost.reset (dB.floored.slots 0)) :=
  ⟨wf_reset c dA sh.wA, wf_reset c dB sh.wB, sh.fd, sh.aff, rfl, inv_reset _ _ sh.rA, inv_reset _ _ sh.rB,
    rfl, rfl⟩

theorem shape_after (F : FloatOps) (c : DCfg) {pA pB : List DEv} (hs : SameShape pA pB) :
    ∃ gA gB, Shape c (after c (init F c) pA) (after c (init F c) pB) gA gB :=
  (SameShape.skel hs).after_rel (R := fun dA dB => ∃ gA gB, Shape c dA dB gA gB)
    (fun ffc ⟨_, _, sh⟩ _ => ⟨_, _, shape_step c _ _ _ _ _ _ ffc sh⟩)
    (fun ⟨_, _, sh⟩ => ⟨_, _, shape_reset c _ _ _ _ sh⟩) _ _
    ⟨_, _, wf_init F c, wf_init F c, rfl, rfl, rfl, inv_new _ _ (Nat.succ_pos _),
      inv_new _ _ (Nat.succ_pos _), rfl, rfl⟩

/-- the content-dependent fields read by the background update agree on the interior (the threshold
only has to where there is an interior pixel to compare) -/
structure DynOK (c : DCfg) (dA dB : Det F) : Prop where
  bg : IntEq c dA.bg dB.bg
  w : ∀ y x, c.inI y x = true → dA.weight y x = dB.weight y x
  t : ∀ y x, c.inI y x = true → dA.tempThresh = dB.tempThresh

/-- What a re-seed of the background leaves alone is still as at start-up: the threshold while
`backgroundFrames ≤ previewFrames` (never recomputed so far), the weights while `backgroundFrames = 0` (the first
update does not touch them).  Holds of every run without `Reset`; it is what makes two runs agree on those fields
after a re-seed (`dyn_seed`). -/
structure U (c : DCfg) (d : Det F) : Prop where
  t : d.backgroundFrames ≤ c.previewFrames → d.tempThresh = c.tempThresh
  w : d.backgroundFrames = 0 → ∀ y x, d.weight y x = F.w0

theorem dyn_keep (c : DCfg) (dA dB : Det F) (f : Frame) (ffc : Bool)
    (hbf : dA.backgroundFrames = dB.backgroundFrames) (haff : dA.affected = dB.affected)
    (hd : DynOK c dA dB) : DynOK c (pre c dA f ffc) (pre c dB f ffc) := by
  rcases pre_cases c ffc with h | ⟨hdyn, rfl⟩
  · rw [pre_static h, pre_static h]
    exact ⟨hd.bg, hd.w, hd.t⟩
  · obtain ⟨hb, hw, hc⟩ := next_congr c hbf hd.bg hd.w (IntEq.refl c f) dB.affected
    rw [pre_dynamic hdyn, pre_dynamic hdyn, haff]
    refine ⟨hb, hw, fun y x hi => ?_⟩
    show threshNext c dA f = threshNext c dB f
    unfold threshNext
    rw [haff, hc, meanOf_congr c hb, hbf]
    split
    · rfl
    · exact hd.t y x hi

/-- the first unaffected frame after an FFC period re-seeds the background (no `Reset` so far) -/
theorem dyn_seed (c : DCfg) (dA dB : Det F) (f : Frame) (hdyn : c.dynamic = true)
    (hbf : dA.backgroundFrames = dB.backgroundFrames) (haA : dA.affected = true) (haB : dB.affected = true)
    (uA : U c dA) (uB : U c dB) : DynOK c (pre c dA f false) (pre c dB f false) := by
  -- after an FFC-affected frame every interior pixel is taken from the frame, whatever the state
  have hr : ∀ (d : Det F) (y x : Nat), replaces d f true y x = true := fun d y x => by simp [replaces]
  have hb : IntEq c (bgNext c dA f true) (bgNext c dB f true) := fun y x hi => by
    simp only [bgNext, hr, hi, Bool.and_self, if_true]
  rw [pre_dynamic hdyn, pre_dynamic hdyn, haA, haB]
  refine ⟨hb, fun y x hi => ?_, fun y x hi => ?_⟩
  · show weightNext c dA f true y x = weightNext c dB f true y x
    simp only [weightNext, hr, if_true, ← hbf]
    by_cases h0 : dA.backgroundFrames = 0
    · rw [if_pos h0, if_pos h0, uA.w h0, uB.w (hbf ▸ h0)]
    · simp only [h0, hi, if_false, if_true]
  · have hc : ∀ d : Det F, changedNext c d f true = true := fun d => by
      simp only [changedNext, hr, Bool.or_eq_true, List.any_eq_true]
      exact Or.inr ⟨(y, x), (DCfg.mem_interior c y x).2 hi, trivial⟩
    show threshNext c dA f = threshNext c dB f
    unfold threshNext
    rw [haA, haB, hc, hc, meanOf_congr c hb, hbf]
    by_cases hp : dB.backgroundFrames + 1 > c.previewFrames
    · simp only [hp, decide_true, Bool.and_self, if_true]
    · simp only [hp, decide_false, Bool.and_false, Bool.false_eq_true, if_false]
      rw [uA.t (by omega), uB.t (by omega)]

/-- transfer along `pixelsChanged`, which touches none of these fields -/
theorem dyn_det (c : DCfg) (dA dB : Det F) (f : Frame) (ffc : Bool)
    (h : DynOK c (pre c dA f ffc) (pre c dB f ffc)) :
    DynOK c (detect c dA f ffc).1 (detect c dB f ffc).1 := by
  obtain ⟨a1, a2, a3, _⟩ := detect_background c dA f ffc
  obtain ⟨b1, b2, b3, _⟩ := detect_background c dB f ffc
  exact ⟨by rw [a2, b2]; exact h.bg, by rw [a3, b3]; exact h.w, by rw [a1, b1]; exact h.t⟩

theorem u_det (c : DCfg) (d : Det F) (f : Frame) (ffc : Bool) (u : U c d) : U c (detect c d f ffc).1 := by
  have h : U c (pre c d f ffc) := by
    rcases pre_cases c ffc with h | ⟨hdyn, rfl⟩
    · rw [pre_static h]
      exact ⟨u.t, u.w⟩
    · rw [pre_dynamic hdyn]
      refine ⟨fun hle => ?_, fun h0 => absurd h0 (Nat.succ_ne_zero _)⟩
      have hle : d.backgroundFrames + 1 ≤ c.previewFrames := hle
      have : ¬ d.backgroundFrames + 1 > c.previewFrames := by omega
      show threshNext c d f = _
      simp only [threshNext, this, decide_false, Bool.and_false, Bool.false_eq_true, if_false]
      exact u.t (by omega)
  obtain ⟨a1, _, a3, a4⟩ := detect_background c d f ffc
  exact ⟨by rw [a1, a4]; exact h.t, by rw [a3, a4]; exact h.w⟩

theorem dyn_reset (c : DCfg) (dA dB : Det F) (hd : DynOK c dA dB) : DynOK c dA.reset dB.reset :=
  ⟨hd.bg, hd.w, hd.t⟩

theorem fixed_dynOK (c : DCfg) (dA dB : Det F) (hA : Fixed c dA) (hB : Fixed c dB) : DynOK c dA dB :=
  ⟨fun _ _ _ => by rw [hA.bg, hB.bg], fun _ _ _ => by rw [hA.w, hB.w], fun _ _ _ => hA.t.trans hB.t.symm⟩

/-- the buffered floored frames `Oldest()` can still return are the same in both runs -/
def ValsAgree (gA gB : Ghost Frame) : Prop := ∀ k, gA.mark ≤ k → k < gA.n → gA.vals k = gB.vals k

/-- the previous-diff slot agrees on the interior -/
def PrevOK (c : DCfg) (dA dB : Det F) : Prop :=
  IntEq c (dA.diffs.slots ((dA.diffs.cur + 1) % 2)) (dB.diffs.slots ((dB.diffs.cur + 1) % 2))

/-- The relation of two runs over a common suffix.  Each part of the state that depends on frame contents
either agrees already or is dead, i.e. will be overwritten, or its reader silenced, before it is read:
`fl` the buffered floored frames, unless the next frame sets the mark (what it compares itself with is then
wasted, see `pv`); `dy` the background state, unless the next unaffected frame re-seeds it (and what a re-seed
leaves alone is still as at start-up, `U`); `pv` the previous diff, unless the next frame gives no verdict or is
compared with itself. -/
structure Rel (c : DCfg) (dA dB : Det F) (gA gB : Ghost Frame) : Prop where
  sh : Shape c dA dB gA gB
  fl : ValsAgree gA gB ∨ (dA.firstDiff = true ∧ dA.affected = true)
  dy : DynOK c dA dB ∨ (c.dynamic = true ∧ dA.affected = true ∧ U c dA ∧ U c dB)
  pv : PrevOK c dA dB ∨ dA.firstDiff = false ∨ gA.mark = gA.n ∨ dA.affected = true

theorem cmp_eq (c : DCfg) (dA dB : Det F) (gA gB : Ghost Frame) (sh : Shape c dA dB gA gB)
    (hv : ValsAgree gA gB) (f : Frame) :
    (dA.floored.write f).oldestFrame = (dB.floored.write f).oldestFrame := by
  have hm := sh.rA.2.2.2.1
  have hs := sh.rA.1
  rw [oldestFrame_write _ _ f sh.rA, oldestFrame_write _ _ f sh.rB, ← sh.wA.fs.trans sh.wB.fs.symm]
  unfold Ghost.lo
  rw [← sh.gn, ← sh.gm]
  split
  · rfl
  · exact hv _ (by omega) (by omega)

theorem vals_step (c : DCfg) (dA dB : Det F) (gA gB : Ghost Frame) (sh : Shape c dA dB gA gB) (f : Frame)
    (ffc : Bool) (h : ValsAgree gA gB ∨ (dA.firstDiff && (ffc || dA.affected)) = true) :
    ValsAgree (gstep dA gA f ffc) (gstep dB gB f ffc) := by
  intro k hk1 hk2
  rw [gstep_n] at hk2
  rw [gstep_mark] at hk1
  rw [gstep_vals _ _ _ _ _ (by omega), gstep_vals _ _ _ _ _ (by rw [← sh.gn]; omega), ← sh.gn]
  by_cases hk : k = gA.n
  · simp only [hk, if_true]
  · simp only [hk, if_false]
    rcases h with hv | hm
    · split at hk1
      · omega
      · exact hv k hk1 (by omega)
    · rw [if_pos hm] at hk1; omega

theorem quiet_both (c : DCfg) (dA dB : Det F) (gA gB : Ghost Frame) (sh : Shape c dA dB gA gB) (f : Frame)
    (ffc : Bool) (h : dA.firstDiff = false ∨ ffc = true ∨ dA.affected = true) :
    (detect c dA f ffc).2 = (detect c dB f ffc).2 := by
  rw [detect_quiet c dA f ffc h, detect_quiet c dB f ffc (sh.fd ▸ sh.aff ▸ h)]

/-- the pivot of (b): an FFC-affected frame relates two runs of the same shape whatever came before.  It is
quiet and leaves `affected` behind, which silences the next frame too and makes it re-seed the background. -/
theorem rel_pivot (c : DCfg) (dA dB : Det F) (gA gB : Ghost Frame) (f : Frame) (sh : Shape c dA dB gA gB)
    (dy : DynOK c dA dB ∨ (c.dynamic = true ∧ U c dA ∧ U c dB)) :
    Rel c (detect c dA f true).1 (detect c dB f true).1 (gstep dA gA f true) (gstep dB gB f true) ∧
    (detect c dA f true).2 = (detect c dB f true).2 := by
  have ha := detect_affected c dA f true
  refine ⟨⟨shape_step c dA dB gA gB f f true sh, ?_, ?_, Or.inr (Or.inr (Or.inr ha))⟩, ?_⟩
  · -- either this frame sets the mark or the next one will
    cases hfd : dA.firstDiff
    · exact Or.inr ⟨by rw [detect_firstDiff, hfd]; rfl, ha⟩
    · exact Or.inl (vals_step c dA dB gA gB sh f true (Or.inr (by rw [hfd]; rfl)))
  · rcases dy with hd | ⟨hdyn, uA, uB⟩
    · exact Or.inl (dyn_det c dA dB f true (dyn_keep c dA dB f true sh.bf sh.aff hd))
    · exact Or.inr ⟨hdyn, ha, u_det c dA f true uA, u_det c dB f true uB⟩
  · exact quiet_both c dA dB gA gB sh f true (Or.inr (Or.inl rfl))

theorem rel_frame (c : DCfg) (dA dB : Det F) (gA gB : Ghost Frame) (f : Frame) (ffc : Bool)
    (r : Rel c dA dB gA gB) :
    Rel c (detect c dA f ffc).1 (detect c dB f ffc).1 (gstep dA gA f ffc) (gstep dB gB f ffc) ∧
    (detect c dA f ffc).2 = (detect c dB f ffc).2 := by
  have sh := r.sh
  cases ffc
  case true => exact rel_pivot c dA dB gA gB f sh (r.dy.imp id fun ⟨h1, _, h3, h4⟩ => ⟨h1, h3, h4⟩)
  -- an unaffected frame: the background state agrees from here on, kept or re-seeded
  have hd : DynOK c (pre c dA f false) (pre c dB f false) := by
    rcases r.dy with hd | ⟨hdyn, ha, uA, uB⟩
    · exact dyn_keep c dA dB f false sh.bf sh.aff hd
    · exact dyn_seed c dA dB f hdyn sh.bf ha (sh.aff ▸ ha) uA uB
  have hd' := dyn_det c dA dB f false hd
  rcases r.fl with hv | ⟨hfd, ha⟩
  · -- everything the frame reads agrees, so what it writes does
    have hnd : IntEq c (newDiff c (pre c dA f false).tempThresh dA f)
        (newDiff c (pre c dB f false).tempThresh dB f) := fun y x hi => by
      simp only [newDiff, hi, if_true, cmp_eq c dA dB gA gB sh hv f, hd.t y x hi]
    refine ⟨⟨shape_step c dA dB gA gB f f false sh, Or.inl (vals_step c dA dB gA gB sh f false (Or.inl hv)),
      Or.inl hd', Or.inl ?_⟩, ?_⟩
    · unfold PrevOK
      rw [detect_diffs, detect_diffs, (Ring.prev_after _ _ sh.wA.ds sh.wA.dc).1,
        (Ring.prev_after _ _ sh.wB.ds sh.wB.dc).1]
      exact hnd
    · rcases r.pv with hp | h1 | hmk | h2
      · rw [detect_eq', detect_eq', ← sh.fd, ← sh.aff, Ring.prev_read _ _ sh.wA.ds,
          Ring.prev_read _ _ sh.wB.ds, countChanged_congr c hnd hp]
      · exact quiet_both c dA dB gA gB sh f false (Or.inl h1)
      · rw [detect_eq', detect_eq', ← sh.fd, ← sh.aff, fresh_count c dA f _ _ ⟨gA, sh.rA, hmk⟩,
          fresh_count c dB f _ _ ⟨gB, sh.rB, by rw [← sh.gm, ← sh.gn]; exact hmk⟩]
      · exact quiet_both c dA dB gA gB sh f false (Or.inr (Or.inr h2))
  · -- the frame sets the mark; it is quiet, and the next gives no verdict either
    have hm : (dA.firstDiff && (false || dA.affected)) = true := by rw [hfd, ha]; rfl
    refine ⟨⟨shape_step c dA dB gA gB f f false sh, Or.inl (vals_step c dA dB gA gB sh f false (Or.inr hm)),
      Or.inl hd', Or.inr (Or.inl (by rw [detect_firstDiff, hm]; rfl))⟩,
      quiet_both c dA dB gA gB sh f false (Or.inr (Or.inr ha))⟩

/-- nothing older than the current frame is in reach of `Oldest()` (as right after a `Reset`) and the
background state agrees (always the case with a fixed threshold) -/
theorem rel_fresh (c : DCfg) (dA dB : Det F) (gA gB : Ghost Frame) (sh : Shape c dA dB gA gB)
    (hm : gA.mark = gA.n) (hd : DynOK c dA dB) : Rel c dA dB gA gB :=
  ⟨sh, Or.inl (fun k h1 h2 => absurd h2 (by omega)), Or.inl hd, Or.inr (Or.inr (Or.inl hm))⟩

/-- two related runs give the same verdicts on the same events; `Reset` is allowed while the
background state agrees -/
theorem rel_run (c : DCfg) (evs : List DEv) (dA dB : Det F) (gA gB : Ghost Frame) (r : Rel c dA dB gA gB)
    (h : DynOK c dA dB ∨ ∀ e ∈ evs, e ≠ DEv.reset) : outputs c dA evs = outputs c dB evs := by
  induction evs generalizing dA dB gA gB with
  | nil => rfl
  | cons e es ih =>
    cases e with
    | frame f ffc =>
      obtain ⟨r', ho⟩ := rel_frame c dA dB gA gB f ffc r
      simp only [outputs, stepEv]
      rw [ho]
      congr 1
      apply ih _ _ _ _ r'
      rcases h with h | h
      · exact Or.inl (dyn_det c dA dB f ffc (dyn_keep c dA dB f ffc r.sh.bf r.sh.aff h))
      · exact Or.inr (fun e he => h e (List.mem_cons_of_mem _ he))
    | reset =>
      simp only [outputs, stepEv]
      rcases h with h | h
      · exact ih _ _ _ _ (rel_fresh c _ _ _ _ (shape_reset c dA dB gA gB r.sh) rfl (dyn_reset c dA dB h))
          (Or.inl (dyn_reset c dA dB h))
      · exact absurd rfl (h _ List.mem_cons_self)

theorem pre_u (c : DCfg) (p : List DEv) (d : Det F) (h : ∀ e ∈ p, e ≠ DEv.reset) (u : U c d) :
    U c (after c d p) := by
  induction p generalizing d with
  | nil => exact u
  | cons a as ih =>
    cases a with
    | frame f fa => exact ih _ (fun e he => h e (List.mem_cons_of_mem _ he)) (u_det c d f fa u)
    | reset => exact absurd rfl (h _ List.mem_cons_self)

/-- **fixed threshold: after `Reset`, two reachable detectors with the same two flags give the same verdicts on
every event list** (frames, FFC periods, further resets) -/
theorem outputs_after_reset (c : DCfg) (hdyn : c.dynamic = false) (preA preB post : List DEv)
    (hfl : flagsAfter preA = flagsAfter preB) :
    outputs c (after c (init F c) preA).reset post = outputs c (after c (init F c) preB).reset post := by
  have e : ((after c (init F c) preA).firstDiff, (after c (init F c) preA).affected) =
      ((after c (init F c) preB).firstDiff, (after c (init F c) preB).affected) := by
    rw [after_flags, after_flags]; exact hfl
  have wA := wf_after c preA _ (wf_init F c)
  have wB := wf_after c preB _ (wf_init F c)
  obtain ⟨gA, hA⟩ := wA.ri
  obtain ⟨gB, hB⟩ := wB.ri
  have hd := fixed_dynOK c _ _ (fixed_after F c hdyn preA) (fixed_after F c hdyn preB)
  exact rel_run c post _ _ _ _
    (rel_fresh c _ _ _ _
      ⟨wf_reset c _ wA, wf_reset c _ wB, congrArg Prod.fst e, congrArg Prod.snd e, rfl,
        inv_reset _ _ hA, inv_reset _ _ hB, rfl, rfl⟩ rfl (dyn_reset c _ _ hd))
    (Or.inl (dyn_reset c _ _ hd))

/-- **from an FFC-affected frame on, two detectors of the same shape give the same verdicts**, provided the
background state agrees (fixed threshold) or neither run has seen or will see a `Reset` -/
theorem outputs_after_ffc (c : DCfg) (dA dB : Det F) (gA gB : Ghost Frame) (sh : Shape c dA dB gA gB)
    (f : Frame) (rest : List DEv)
    (h : DynOK c dA dB ∨ (c.dynamic = true ∧ U c dA ∧ U c dB ∧ ∀ e ∈ rest, e ≠ DEv.reset)) :
    outputs c dA (.frame f true :: rest) = outputs c dB (.frame f true :: rest) := by
  obtain ⟨r, ho⟩ := rel_pivot c dA dB gA gB f sh (h.imp id fun ⟨h1, h2, h3, _⟩ => ⟨h1, h2, h3⟩)
  simp only [outputs, stepEv]
  rw [ho]
  congr 1
  apply rel_run c rest _ _ _ _ r
  rcases h with hd | ⟨_, _, _, hnr⟩
  · exact Or.inl (dyn_det c dA dB f true (dyn_keep c dA dB f true sh.bf sh.aff hd))
  · exact Or.inr hnr

end P09
end TR
