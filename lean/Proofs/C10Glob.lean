import Proofs.FSC10

/-!
# Proofs.C10Glob — helper lemmas for the characterisation of the start-up clean-up on ARBITRARY names

`NoOverlap lit w` says when appending a tail `w` to a list cannot create a new occurrence of `lit`
(`infix_append_noOverlap`); occurrences matter because `* lit *` is "contains `lit`" (`glob_star_lit_star_iff`).
-/
namespace TR.C10Glob
open TR.FS TR.C10

/-- `NoOverlap lit w`: no non-empty prefix of `w` is the end of `lit`, and `lit` is not the end of a
prefix of `w` — so an occurrence of `lit` in `st ++ w` cannot end inside `w` (decidable) -/
def NoOverlap (lit w : List Char) : Prop :=
  ∀ k, k < w.length → ¬ w.take (k + 1) <:+ lit ∧ ¬ lit <:+ w.take (k + 1)

instance (lit w : List Char) : Decidable (NoOverlap lit w) := by
  unfold NoOverlap; exact inferInstance

theorem infix_append_take (lit st w : List Char) (h : NoOverlap lit w) :
    ∀ k, k ≤ w.length → (lit <:+: st ++ w.take k ↔ lit <:+: st) := by
  intro k
  induction k with
  | zero => intro _; simp
  | succ k ih =>
    intro hk
    have hk' : k < w.length := hk
    rw [List.take_succ_eq_append_getElem hk', ← List.append_assoc, List.infix_concat_iff,
      ih (Nat.le_of_lt hk')]
    refine ⟨fun hh => ?_, Or.inr⟩
    rcases hh with hs | hi
    · exfalso
      rw [List.append_assoc, ← List.take_succ_eq_append_getElem hk'] at hs
      rcases List.suffix_or_suffix_of_suffix hs (List.suffix_append st (w.take (k + 1))) with h1 | h1
      · exact (h k hk').2 h1
      · exact (h k hk').1 h1
    · exact hi

theorem infix_append_noOverlap (lit st w : List Char) (h : NoOverlap lit w) :
    lit <:+: st ++ w ↔ lit <:+: st := by
  have := infix_append_take lit st w h w.length (Nat.le_refl _)
  rwa [List.take_length] at this

end TR.C10Glob
