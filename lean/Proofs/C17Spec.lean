import Proofs.ProcC12
import Proofs.C01Spec
/-!
# Proofs.C17Spec — what acceptance by the C17 monitor means, as a plain list specification

`filesOf s tr` cuts the calls an observed trace makes on sink `s` into files (a fold that does not mention
the monitor `M17`; for the motion sink it is `C01Spec.recordings`).  Frame events are numbered 0, 1, 2, … in
order (`numFrames`, `frameIdAt`).

For EVERY trace that `monC17` accepts, whose steps dictate no fault on the continuous / test sink, whose
test requests do not overlap (`reqsSpaced`, a fold over the events only) and whose non-frame steps are
quiet (`quietStep`: the monitor does not look at the continuous sink during `.reset` / `.testReq` steps, nor at
the test sink during any step that is not a frame):

* the continuous files are the `chunksOf (maxF + 1)` of the `segments` (frame ids between bad frames);
* the test files are the runs `List.range' a (testLast + 1)`, `a` ranging over `testStarts` (ids of the first
  frame after a request), the last one cut at the end of the trace.

How: a step after which the monitor is untainted and has reported nothing made exactly the calls the monitor
expects (`step_ok`); for a frame these are one recorder cycle per sink (`cycleObs`), whose effect on the file
accumulator is `facc_cycleObs`.  Two relations are carried along the run (`fold_inv`): `ConstJ` — the segment
being filled is full chunks, which are closed files, and `cPos` more ids, which are the open file (`Chunked`) —
and `TestJ` — the starts served so far with their files, and the run of the open recording.
-/
namespace TR.C17Spec
open M17

structure FAcc where
  done : List (List Nat) := []      -- closed files, oldest first
  cur  : Option (List Nat) := none  -- the open file, if any

/-- one call, seen from sink `s`: a successful `StartRecording` opens a file (closing an open one), every
`WriteFrame` appends its id to the open file, `StopRecording` closes it; everything else is ignored -/
def FAcc.obs (s : Sink) (a : FAcc) : Obs → FAcc
  | .call s' .start true => if s' = s then { done := a.done ++ a.cur.toList, cur := some [] } else a
  | .call s' (.write id) _ => if s' = s then { a with cur := a.cur.map (· ++ [id]) } else a
  | .call s' .stop _ => if s' = s then { done := a.done ++ a.cur.toList, cur := none } else a
  | _ => a

/-- the accumulator after all calls of a trace, in order -/
def fileAcc (s : Sink) (tr : List Step) : FAcc := (tr.flatMap (·.obs)).foldl (FAcc.obs s) {}

/-- files of sink `s` that were closed by a `StopRecording` (or a new successful start), oldest first -/
def closedFilesOf (s : Sink) (tr : List Step) : List (List Nat) := (fileAcc s tr).done
/-- the file of sink `s` still open at the end of the trace -/
def openFileOf (s : Sink) (tr : List Step) : Option (List Nat) := (fileAcc s tr).cur
/-- all files of sink `s`: the closed ones followed by the open one -/
def filesOf (s : Sink) (tr : List Step) : List (List Nat) := closedFilesOf s tr ++ (openFileOf s tr).toList

def numFrames (tr : List Step) : Nat := (tr.filter (·.ev.isFrame)).length
/-- the id of the frame event at position `i` of the trace (= number of frame events before it) -/
def frameIdAt (tr : List Step) (i : Nat) : Nat := numFrames (tr.take i)

structure SegAcc where
  n : Nat := 0                      -- frame events so far
  done : List (List Nat) := []      -- segments closed by a bad frame
  cur : List Nat := []              -- frame ids since the last bad frame

def SegAcc.step (g : SegAcc) : Ev → SegAcc
  | .frame _ _ => { g with n := g.n + 1, cur := g.cur ++ [g.n] }
  | .bad _ => { g with done := g.done ++ [g.cur], cur := [] }
  | _ => g

def segAcc (tr : List Step) : SegAcc := tr.foldl (fun g st => g.step st.ev) {}

/-- the frame ids cut at the `.bad` events (`b` bad events give `b + 1` segments, some possibly empty) -/
def segments (tr : List Step) : List (List Nat) := (segAcc tr).done ++ [(segAcc tr).cur]

/-- `chunkAux k acc l`: `acc` is the chunk being filled -/
def chunkAux (k : Nat) : List Nat → List Nat → List (List Nat)
  | acc, [] => if acc.isEmpty then [] else [acc]
  | acc, x :: xs => if k ≤ acc.length + 1 then (acc ++ [x]) :: chunkAux k [] xs else chunkAux k (acc ++ [x]) xs

/-- cut a list into consecutive chunks of `k` elements (the last one may be shorter; no empty chunk) -/
def chunksOf (k : Nat) (l : List Nat) : List (List Nat) := chunkAux k [] l

structure TAcc where
  n : Nat := 0
  pending : Bool := false           -- a request was made since the last frame event
  starts : List Nat := []

def TAcc.step (t : TAcc) : Ev → TAcc
  | .frame _ _ => { n := t.n + 1, pending := false, starts := t.starts ++ (if t.pending then [t.n] else []) }
  | .testReq => { t with pending := true }
  | _ => t

def tAcc (tr : List Step) : TAcc := tr.foldl (fun t st => t.step st.ev) {}

/-- ids of the frame events that are the first frame event after a `.testReq` event -/
def testStarts (tr : List Step) : List Nat := (tAcc tr).starts

/-- `since = some j`: `j` frame events since the last request.  A request is admissible when the previous
one was followed by at least `k` frame events. -/
def spacedFrom (k : Nat) : Option Nat → List Ev → Bool
  | _, [] => true
  | s, .testReq :: es => (match s with | none => true | some j => decide (k ≤ j)) && spacedFrom k (some 0) es
  | s, .frame _ _ :: es => spacedFrom k (s.map (· + 1)) es
  | s, _ :: es => spacedFrom k s es

/-- test requests do not overlap: between two consecutive `.testReq` events there are at least
`testLast + 1` frame events (the first serves the request, `testLast` more complete the recording) -/
def reqsSpaced (c : PCfg) (tr : List Step) : Bool := spacedFrom (c.testLast + 1) none (tr.map (·.ev))

/-- the part of a trace the monitor does not look at: calls on the test sink during a step that is not a
frame, calls on the continuous sink during a `.reset` or `.testReq` step -/
def quietStep (st : Step) : Bool :=
  match st.ev with
  | .frame _ _ => true
  | .bad _ => (obsOf .test st.obs).isEmpty
  | _ => (obsOf .const st.obs).isEmpty && (obsOf .test st.obs).isEmpty

theorem facc_start (s : Sink) (a : FAcc) :
    a.obs s (.call s .start true) = { done := a.done ++ a.cur.toList, cur := some [] } := by
  simp [FAcc.obs]
theorem facc_stop (s : Sink) (a : FAcc) (ok : Bool) :
    a.obs s (.call s .stop ok) = { done := a.done ++ a.cur.toList, cur := none } := by
  simp [FAcc.obs]
theorem facc_write (s : Sink) (a : FAcc) (id : Nat) (ok : Bool) :
    a.obs s (.call s (.write id) ok) = { a with cur := a.cur.map (· ++ [id]) } := by
  simp [FAcc.obs]

def onSink (s : Sink) : Obs → Bool
  | .call s' _ _ => s' == s
  | _ => false

theorem facc_other (s : Sink) (a : FAcc) (o : Obs) (h : onSink s o = false) : a.obs s o = a := by
  cases o with
  | call s' cl ok =>
    have hne : ¬ s' = s := by simpa [onSink] using h
    cases cl <;> cases ok <;> simp [FAcc.obs, hne]
  | _ => rfl

theorem facc_fold_obsOf (s : Sink) (os : List Obs) (a : FAcc) :
    os.foldl (FAcc.obs s) a = (obsOf s os).foldl (FAcc.obs s) a :=
  (foldl_filter (FAcc.obs s) (onSink s) (facc_other s) os a).symm

theorem fileAcc_eq (s : Sink) (tr : List Step) :
    fileAcc s tr = tr.foldl (fun a st => st.obs.foldl (FAcc.obs s) a) {} :=
  List.foldl_flatMap

/-- for the motion sink the files are the recordings of `Proofs.C01Spec` -/
theorem facc_motion (a : FAcc) (o : Obs) :
    (⟨(a.obs .motion o).done, (a.obs .motion o).cur⟩ : C01Spec.RecAcc) =
      C01Spec.RecAcc.obs ⟨a.done, a.cur⟩ o := by
  cases o with
  | call s cl ok => cases s <;> cases cl <;> cases ok <;> rfl
  | _ => rfl

theorem facc_motion_fold : ∀ (os : List Obs) (a : FAcc),
    (⟨(os.foldl (FAcc.obs .motion) a).done, (os.foldl (FAcc.obs .motion) a).cur⟩ : C01Spec.RecAcc) =
      os.foldl C01Spec.RecAcc.obs ⟨a.done, a.cur⟩ := by
  intro os
  induction os with
  | nil => intro a; rfl
  | cons o os ih => intro a; rw [List.foldl_cons, List.foldl_cons, ih, facc_motion]

/-! ## chunks

`Chunked k l d r`: `l` is the full chunks `d` followed by a rest `r` too short for a chunk.  Every list is
chunked in this way (`exists_chunked`, one element at a time: `Chunked.snoc`) and `chunksOf k l` is then `d`
followed by `r` unless `r` is empty (`Chunked.chunks`); what is said about `chunksOf` below is read off this. -/

theorem chunksOf_nil (k : Nat) : chunksOf k [] = [] := rfl

/-- a chunk that cannot be filled is the last one -/
theorem chunkAux_short (k : Nat) : ∀ (l acc : List Nat), acc.length + l.length < k →
    chunkAux k acc l = if (acc ++ l).isEmpty then [] else [acc ++ l] := by
  intro l
  induction l with
  | nil => intro acc _; simp [chunkAux]
  | cons x xs ih =>
    intro acc h
    simp only [List.length_cons] at h
    simp only [chunkAux]
    rw [if_neg (by omega), ih (acc ++ [x]) (by simp; omega)]
    simp

/-- the elements that fill the chunk up are cut off -/
theorem chunkAux_fill (k : Nat) : ∀ (x acc rest : List Nat), x ≠ [] → acc.length + x.length = k →
    chunkAux k acc (x ++ rest) = (acc ++ x) :: chunkAux k [] rest := by
  intro x
  induction x with
  | nil => intro _ _ h; exact absurd rfl h
  | cons y ys ih =>
    intro acc rest _ hk
    simp only [List.length_cons] at hk
    simp only [List.cons_append, chunkAux]
    split
    · obtain rfl : ys = [] := List.eq_nil_of_length_eq_zero (by omega)
      rfl
    · rw [ih (acc ++ [y]) rest (by intro e; subst e; simp at hk; omega) (by simp; omega), List.append_assoc]
      rfl

structure Chunked (k : Nat) (l : List Nat) (d : List (List Nat)) (r : List Nat) : Prop where
  eq : l = d.flatten ++ r
  full : ∀ x ∈ d, x.length = k
  short : r.length < k

/-- one more element goes to the rest, which becomes a full chunk when it reaches `k` elements -/
theorem Chunked.snoc {k : Nat} {l : List Nat} {d : List (List Nat)} {r : List Nat} (h : Chunked k l d r) (x : Nat) :
    if r.length + 1 < k then Chunked k (l ++ [x]) d (r ++ [x]) else Chunked k (l ++ [x]) (d ++ [r ++ [x]]) [] := by
  obtain ⟨h1, h2, h3⟩ := h
  split
  · next hlt => exact ⟨by rw [h1, List.append_assoc], h2, by simpa using hlt⟩
  · refine ⟨by rw [h1]; simp, ?_, Nat.lt_of_le_of_lt (Nat.zero_le _) h3⟩
    intro y hy
    rcases List.mem_append.mp hy with hy | hy
    · exact h2 y hy
    · rw [List.mem_singleton.mp hy, List.length_append]; simp; omega

theorem Chunked.chunks {k : Nat} {l : List Nat} {d : List (List Nat)} {r : List Nat} (h : Chunked k l d r) :
    chunksOf k l = d ++ if r.isEmpty then [] else [r] := by
  obtain ⟨rfl, h2, h3⟩ := h
  induction d with
  | nil => exact chunkAux_short k r [] (by simpa using h3)
  | cons x d ih =>
    have hx := h2 x (List.mem_cons_self ..)
    rw [List.flatten_cons, List.append_assoc, chunksOf,
      chunkAux_fill k x [] _ (by intro e; subst e; simp at hx; omega) (by simpa using hx)]
    exact congrArg (x :: ·) (ih fun y hy => h2 y (List.mem_cons_of_mem _ hy))

theorem exists_chunked (k : Nat) (hk : 0 < k) : ∀ l : List Nat, ∃ d r, Chunked k l d r := by
  apply snoc_induction
  · exact ⟨[], [], ⟨rfl, (fun _ h => nomatch h), hk⟩⟩
  · rintro l x ⟨d, r, h⟩
    have := h.snoc x
    split at this <;> exact ⟨_, _, this⟩

/-- cutting loses and reorders nothing -/
theorem chunksOf_flatten (k : Nat) (hk : 0 < k) (l : List Nat) : (chunksOf k l).flatten = l := by
  obtain ⟨d, r, h⟩ := exists_chunked k hk l
  rw [h.chunks, h.eq]
  cases r <;> simp

theorem chunksOf_length (k : Nat) (hk : 0 < k) (l x : List Nat) (hx : x ∈ chunksOf k l) :
    0 < x.length ∧ x.length ≤ k := by
  obtain ⟨d, r, h⟩ := exists_chunked k hk l
  rw [h.chunks] at hx
  rcases List.mem_append.mp hx with hx | hx
  · rw [h.full x hx]; exact ⟨hk, Nat.le_refl k⟩
  · split at hx
    · cases hx
    · next hr =>
      rw [List.mem_singleton.mp hx]
      exact ⟨List.length_pos_iff.mpr (by simpa using hr), Nat.le_of_lt h.short⟩

theorem chunksOf_full (k : Nat) (hk : 0 < k) (l : List Nat) (init : List (List Nat)) (last : List Nat)
    (he : chunksOf k l = init ++ [last]) : ∀ x ∈ init, x.length = k := by
  obtain ⟨d, r, h⟩ := exists_chunked k hk l
  rw [h.chunks] at he
  split at he
  · rw [List.append_nil] at he
    exact fun x hx => h.full x (he ▸ List.mem_append_left _ hx)
  · exact (List.append_inj' he rfl).1 ▸ h.full

/-- the calls on the continuous sink that an accepting monitor has seen during a quiet step -/
def seenC (c : PCfg) (m : M17) : Ev → List Obs
  | .frame _ _ => expC c m
  | .bad _ => if c.constOn then [Obs.call .const .stop true] else []
  | _ => []

/-- … and on the test sink -/
def seenT (c : PCfg) (m : M17) : Ev → List Obs
  | .frame _ _ => expT c m
  | _ => []

/-- **an untainted step that reports nothing**: the monitor was untainted and had reported nothing, no call on
the two sinks failed, a request found no test recording open or pending, and (the step being quiet) the calls
on the two sinks are known -/
theorem step_ok (c : PCfg) (m : M17) (st : Step) (ht : (M17.step c m st).tainted = false)
    (hf : (M17.step c m st).fails = []) :
    m.tainted = false ∧ m.fails = [] ∧ sinkFault st.obs = false ∧
    (st.ev = .testReq → (m.tOpen || m.pending) = false) ∧
    (quietStep st = true → obsOf .const st.obs = seenC c m st.ev ∧ obsOf .test st.obs = seenT c m st.ev) := by
  cases hs : sinkFault st.obs with
  | true => rw [(M17.step_taint c m st (.inr hs)).1] at ht; cases ht
  | false =>
    obtain ⟨ev, obs⟩ := st
    cases ev with
    | frame mo f =>
      rw [M17.step_frame c m mo f obs hs] at ht hf
      have ht0 : m.tainted = false := ht
      simp only [ht0, Bool.false_eq_true, if_false, List.append_eq_nil_iff, ite_else_singleton_nil] at hf
      exact ⟨ht0, hf.1, rfl, (fun e => nomatch e), fun _ => hf.2⟩
    | bad f =>
      rw [M17.step_bad c m f obs hs] at ht hf
      have ht0 : m.tainted = false := ht
      simp only [ht0, Bool.false_eq_true, if_false, List.append_eq_nil_iff, ite_else_singleton_nil] at hf
      exact ⟨ht0, hf.1, rfl, (fun e => nomatch e), fun hq => ⟨hf.2, by simpa [quietStep, seenT] using hq⟩⟩
    | reset f =>
      rw [M17.step_reset c m f obs hs] at ht hf
      exact ⟨ht, hf, rfl, (fun e => nomatch e), fun hq => by simpa [quietStep, seenC, seenT] using hq⟩
    | testReq =>
      rw [M17.step_testReq c m obs hs] at ht hf
      split at ht
      · cases ht
      · next h =>
        rw [if_neg h] at hf
        exact ⟨ht, hf, rfl, fun _ => by simpa using h, fun hq => by simpa [quietStep, seenC, seenT] using hq⟩

/-! ## spaced requests keep the monitor untainted -/

/-- the monitor's test-recording counters are a function of `since`, the frames since the last request (`spacedFrom`) -/
def TaintRel (k : Nat) (since : Option Nat) (m : M17) : Prop :=
  match since with
  | none => m.pending = false ∧ m.tOpen = false ∧ m.tCount = 0
  | some j => m.pending = decide (j = 0) ∧ m.tOpen = decide (0 < j ∧ j < k) ∧
      m.tCount = if 0 < j ∧ j < k then j else 0

/-- A frame moves `since` on by one and the counters follow.  The cases for `since = some j`, with
`k = testLast + 1`: `j = 0`, the frame serves the request (the recording opens, and closes at once if `testLast = 0`);
`0 < j < k`, a recording is open (and closes if `j + 1 = k`); `k ≤ j`, none is open and nothing moves. -/
theorem taintRel_frame (c : PCfg) (since : Option Nat) (m : M17) (mo : Bool) (f : Faults) (obs : List Obs)
    (hs : sinkFault obs = false) (h : TaintRel (c.testLast + 1) since m) :
    TaintRel (c.testLast + 1) (since.map (· + 1)) (M17.step c m ⟨.frame mo f, obs⟩) := by
  rw [M17.step_frame c m mo f obs hs]
  cases since with
  | none =>
    obtain ⟨h1, h2, h3⟩ := h
    simp [TaintRel, tOpenNow, tStarting, tClosing, tCountNow, h1, h2, h3]
  | some j =>
    obtain ⟨h1, h2, h3⟩ := h
    simp only [TaintRel, Option.map_some, tOpenNow, tStarting, tClosing, tCountNow, h1, h2, h3]
    by_cases j0 : j = 0
    · subst j0
      by_cases ht : c.testLast = 0
      · simp [ht]
      · have : 1 < c.testLast + 1 := by omega
        have h2 : ¬ (1 > c.testLast) := by omega
        simp [this, h2]
    · by_cases jk : j < c.testLast + 1
      · have a1 : (0 < j ∧ j < c.testLast + 1) := ⟨by omega, jk⟩
        by_cases jk' : j + 1 < c.testLast + 1
        · have a2 : ¬ (j + 1 > c.testLast) := by omega
          simp [j0, a1, jk', a2]
        · have a2 : j + 1 > c.testLast := by omega
          simp [j0, a1, jk', a2]
      · have a1 : ¬ (0 < j ∧ j < c.testLast + 1) := by omega
        have a2 : ¬ (j + 1 < c.testLast + 1) := by omega
        simp [j0, a1, a2]

/-- Without a sink fault the monitor taints itself only at a request that finds a test recording open or pending
(`M17.step_testReq`).  By `TaintRel` both flags are functions of `since`, and `spacedFrom` lets a request through
only when `since` is `none` or at least `testLast + 1`, where both are false (`hfree`). -/
theorem untainted_fold (c : PCfg) : ∀ (tr : List Step) (since : Option Nat) (m : M17),
    (∀ st ∈ tr, sinkFault st.obs = false) → spacedFrom (c.testLast + 1) since (tr.map (·.ev)) = true →
    TaintRel (c.testLast + 1) since m → m.tainted = false → (tr.foldl (M17.step c) m).tainted = false := by
  intro tr
  induction tr with
  | nil => intro _ m _ _ _ ht; exact ht
  | cons st tr ih =>
    intro since m hsf hsp hrel ht
    have hs := hsf st (List.mem_cons_self ..)
    have hsf' : ∀ s ∈ tr, sinkFault s.obs = false := fun s hs => hsf s (List.mem_cons_of_mem _ hs)
    obtain ⟨ev, obs⟩ := st
    simp only [List.foldl_cons]
    simp only [List.map_cons] at hsp
    cases ev with
    | frame mo f =>
      simp only [spacedFrom] at hsp
      refine ih _ _ hsf' hsp (taintRel_frame c since m mo f obs hs hrel) ?_
      rw [M17.step_frame c m mo f obs hs]; exact ht
    | bad f =>
      simp only [spacedFrom] at hsp
      rw [M17.step_bad c m f obs hs]
      exact ih since _ hsf' hsp (by cases since <;> exact hrel) ht
    | reset f =>
      simp only [spacedFrom] at hsp
      rw [M17.step_reset c m f obs hs]
      exact ih since m hsf' hsp hrel ht
    | testReq =>
      simp only [spacedFrom, Bool.and_eq_true] at hsp
      have hfree : m.tOpen = false ∧ m.pending = false ∧ m.tCount = 0 := by
        cases since with
        | none => exact ⟨hrel.2.1, hrel.1, hrel.2.2⟩
        | some j =>
          obtain ⟨h1, h2, h3⟩ := hrel
          have hj : c.testLast + 1 ≤ j := by simpa using hsp.1
          have a1 : ¬ (0 < j ∧ j < c.testLast + 1) := by omega
          have a0 : ¬ j = 0 := by omega
          simp only [a1, a0, decide_false, if_false] at h1 h2 h3
          exact ⟨h2, h1, h3⟩
      have e : M17.step c m ⟨.testReq, obs⟩ = { m with pending := true } := by
        rw [M17.step_testReq c m obs hs]
        simp [hfree.1, hfree.2.1]
      rw [e]
      refine ih (some 0) _ hsf' hsp.2 ?_ ht
      simp [TaintRel, hfree.1, hfree.2.2]

/-- a relation between the monitor, the file accumulator of a sink and an accumulator over the events, kept by
every quiet step after which the monitor is untainted and has reported nothing, holds at the end of a quiet,
accepted, untainted trace -/
theorem fold_inv {B : Type} (c : PCfg) (s : Sink) (fb : B → Ev → B) (J : M17 → FAcc → B → Prop)
    (hstep : ∀ m a b st, quietStep st = true → (M17.step c m st).tainted = false → (M17.step c m st).fails = [] →
      J m a b → J (M17.step c m st) (st.obs.foldl (FAcc.obs s) a) (fb b st.ev))
    (tr : List Step) (b0 : B) (hq : ∀ st ∈ tr, quietStep st = true) (h : J {} {} b0)
    (ht : (tr.foldl (M17.step c) {}).tainted = false) (hf : monC17 c tr = []) :
    J (tr.foldl (M17.step c) {}) (fileAcc s tr) (tr.foldl (fun b st => fb b st.ev) b0) := by
  have := fold_rel (M17.step c) (fun (x : FAcc × B) st => (st.obs.foldl (FAcc.obs s) x.1, fb x.2 st.ev))
    (fun m => m.tainted = false ∧ m.fails = []) (quietStep · = true) (fun m x => J m x.1 x.2)
    (fun m st hok => ⟨(step_ok c m st hok.1 hok.2).1, (step_ok c m st hok.1 hok.2).2.1⟩)
    (fun m x st hp hok hj => hstep m x.1 x.2 st hp hok.1 hok.2 hj) tr {} ({}, b0) hq ⟨ht, hf⟩ h
  rwa [fold_pair (fun (a : FAcc) (st : Step) => st.obs.foldl (FAcc.obs s) a) (fun b st => fb b st.ev), ← fileAcc_eq] at this

/-- **one recorder cycle in the accumulator of its sink**: with `r` the ids of the file open before (`[]` if
none is), a recorder that is or becomes open appends the frame id, to a fresh file if it starts now, and closes
the file if it is full -/
theorem facc_cycleObs (k : Sink) (a : FAcc) (id : Nat) (wasOpen starting full : Bool) (r : List Nat)
    (ha : a.cur = if wasOpen then some r else none) (hr : wasOpen = false → r = [])
    (hs : (wasOpen && starting) = false) :
    (cycleObs k id wasOpen starting true true full true).foldl (FAcc.obs k) a =
      if wasOpen || starting then (if full then ⟨a.done ++ [r ++ [id]], none⟩ else ⟨a.done, some (r ++ [id])⟩)
      else a := by
  obtain ⟨ad, ac⟩ := a
  cases wasOpen
  · obtain rfl := hr rfl
    obtain rfl : ac = none := ha
    cases starting <;> cases full <;> simp [cycleObs, facc_start, facc_write, facc_stop]
  · obtain rfl : starting = false := by simpa using hs
    obtain rfl : ac = some r := ha
    cases full <;> simp [cycleObs, facc_write, facc_stop]

/-- monitor counters ↔ file accumulator ↔ segment accumulator (continuous recorder on): the segment being
filled is cut into full chunks `d`, which are files, and a rest of `cPos` ids, which is the open file -/
def ConstJ (c : PCfg) (n cPos : Nat) (a : FAcc) (g : SegAcc) : Prop :=
  g.n = n ∧ ∃ d r, Chunked (c.maxF + 1) g.cur d r ∧ r.length = cPos ∧
    a.done = g.done.flatMap (chunksOf (c.maxF + 1)) ++ d ∧ a.cur = if cPos = 0 then none else some r

/-- the files so far are the chunks of the segments so far -/
theorem ConstJ.files {c : PCfg} {n cPos : Nat} {a : FAcc} {g : SegAcc} (h : ConstJ c n cPos a g) :
    a.done ++ a.cur.toList = (g.done ++ [g.cur]).flatMap (chunksOf (c.maxF + 1)) := by
  obtain ⟨_, d, r, hch, hr, hdone, hcur⟩ := h
  rw [List.flatMap_append, List.flatMap_singleton, hch.chunks, hdone, hcur, List.append_assoc, ← hr]
  cases r <;> rfl

theorem const_step (c : PCfg) (hc : c.constOn = true) (m : M17) (a : FAcc) (g : SegAcc) (st : Step)
    (hq : quietStep st = true) (ht : (M17.step c m st).tainted = false) (hf : (M17.step c m st).fails = [])
    (h : ConstJ c m.n m.cPos a g) :
    ConstJ c (M17.step c m st).n (M17.step c m st).cPos (st.obs.foldl (FAcc.obs .const) a) (g.step st.ev) := by
  obtain ⟨_, _, hs, _, hseen⟩ := step_ok c m st ht hf
  obtain ⟨ev, obs⟩ := st
  rw [facc_fold_obsOf, (hseen hq).1]
  cases ev with
  | frame mo f =>
    obtain ⟨hn, d, r, hch, hr, hdone, hcur⟩ := h
    rw [seenC, M17.expC_eq, hc, Bool.true_and, Bool.true_and, M17.step_frame c m mo f obs hs,
      facc_cycleObs .const a m.n _ _ _ r (by rw [hcur]; by_cases h0 : m.cPos = 0 <;> simp [h0])
        (fun h0 => List.eq_nil_of_length_eq_zero (by rw [hr]; simpa using h0)) (by simp)]
    have hsn := hch.snoc g.n
    simp only [SegAcc.step, nextCPos, hc, Bool.not_true, Bool.false_eq_true, if_false, decide_eq_true_eq,
      Bool.or_eq_true, Decidable.not_or_self, if_true, hn]
    rw [hr, hn] at hsn
    refine ⟨rfl, ?_⟩
    by_cases h1 : m.cPos + 1 > c.maxF
    · rw [if_neg (by omega)] at hsn
      rw [if_pos h1, if_pos h1]
      exact ⟨_, _, hsn, rfl, by rw [hdone, List.append_assoc], rfl⟩
    · rw [if_pos (by omega)] at hsn
      rw [if_neg h1, if_neg h1]
      exact ⟨_, _, hsn, by rw [List.length_append, hr]; rfl, hdone, by simp⟩
  | bad f =>
    rw [M17.step_bad c m f obs hs]
    simp only [seenC, hc, if_true, List.foldl_cons, List.foldl_nil, facc_stop, SegAcc.step]
    exact ⟨h.1, [], [], ⟨rfl, (fun _ h => nomatch h), Nat.succ_pos _⟩, rfl, by rw [h.files, List.append_nil], rfl⟩
  | reset f =>
    rw [M17.step_reset c m f obs hs]
    exact h
  | testReq =>
    rw [M17.step_testReq c m obs hs]
    split <;> exact h

theorem constOff_step (c : PCfg) (hc : c.constOn = false) (m : M17) (a : FAcc) (st : Step)
    (hq : quietStep st = true) (ht : (M17.step c m st).tainted = false) (hf : (M17.step c m st).fails = []) :
    st.obs.foldl (FAcc.obs .const) a = a := by
  rw [facc_fold_obsOf, ((step_ok c m st ht hf).2.2.2.2 hq).1]
  cases st.ev <;> simp [seenC, expC, hc]

theorem const_final (c : PCfg) (hc : c.constOn = true) (tr : List Step)
    (hq : ∀ st ∈ tr, quietStep st = true) (hun : (tr.foldl (M17.step c) {}).tainted = false)
    (hacc : monC17 c tr = []) :
    ConstJ c (tr.foldl (M17.step c) {}).n (tr.foldl (M17.step c) {}).cPos (fileAcc .const tr) (segAcc tr) :=
  fold_inv c .const SegAcc.step (fun m a g => ConstJ c m.n m.cPos a g) (const_step c hc) tr {} hq
    ⟨rfl, [], [], ⟨rfl, (fun _ h => nomatch h), Nat.succ_pos _⟩, rfl, rfl, rfl⟩ hun hacc

/-- **continuous files = chunks of the segments** -/
theorem const_files (c : PCfg) (hc : c.constOn = true) (tr : List Step)
    (hq : ∀ st ∈ tr, quietStep st = true) (hun : (tr.foldl (M17.step c) {}).tainted = false)
    (hacc : monC17 c tr = []) :
    filesOf .const tr = (segments tr).flatMap (chunksOf (c.maxF + 1)) ∧
    ∀ r, openFileOf .const tr = some r → 0 < r.length ∧ r.length ≤ c.maxF := by
  have h := const_final c hc tr hq hun hacc
  refine ⟨h.files, ?_⟩
  obtain ⟨_, d, r, hch, hr, _, hcur⟩ := h
  intro r' h'
  rw [openFileOf, hcur] at h'
  split at h'
  · cases h'
  · next h0 => cases h'; exact ⟨by omega, Nat.le_of_lt_succ hch.short⟩

theorem constOff_files (c : PCfg) (hc : c.constOn = false) (tr : List Step)
    (hq : ∀ st ∈ tr, quietStep st = true) (hun : (tr.foldl (M17.step c) {}).tainted = false)
    (hacc : monC17 c tr = []) : filesOf .const tr = [] := by
  have h := fold_inv c .const (fun (_ : Unit) _ => ()) (fun _ a _ => a.done = [] ∧ a.cur = none)
    (fun m a _ st hq ht hf hj => by rw [constOff_step c hc m a st hq ht hf]; exact hj) tr () hq
    ⟨rfl, rfl⟩ hun hacc
  show (fileAcc .const tr).done ++ (fileAcc .const tr).cur.toList = []
  rw [h.1, h.2]; rfl

theorem numFrames_cons (st : Step) (tr : List Step) :
    numFrames (st :: tr) = (if st.ev.isFrame then 1 else 0) + numFrames tr := by
  unfold numFrames
  rw [List.filter_cons]
  cases st.ev.isFrame <;> simp <;> omega

theorem numFrames_nil : numFrames [] = 0 := rfl

theorem seg_fold : ∀ (tr : List Step) (g : SegAcc),
    (tr.foldl (fun g st => g.step st.ev) g).n = g.n + numFrames tr ∧
    (tr.foldl (fun g st => g.step st.ev) g).done.flatten ++ (tr.foldl (fun g st => g.step st.ev) g).cur =
      g.done.flatten ++ g.cur ++ List.range' g.n (numFrames tr) := by
  intro tr
  induction tr with
  | nil => intro g; simp [numFrames_nil]
  | cons st tr ih =>
    intro g
    obtain ⟨i1, i2⟩ := ih (g.step st.ev)
    rw [List.foldl_cons, i1, i2, numFrames_cons]
    obtain ⟨ev, obs⟩ := st
    cases ev with
    | frame mo f =>
      simp only [SegAcc.step, Ev.isFrame, if_true]
      refine ⟨by omega, ?_⟩
      rw [Nat.add_comm 1 (numFrames tr), List.range'_succ]
      simp
    | bad f | reset f | testReq => simp [SegAcc.step, Ev.isFrame]

/-- every frame id lies in exactly one segment, in order -/
theorem segments_partition (tr : List Step) : (segments tr).flatten = List.range (numFrames tr) := by
  have h := (seg_fold tr {}).2
  simp only [segments, segAcc, List.flatten_append, List.flatten_cons, List.flatten_nil,
    List.append_nil, List.range_eq_range']
  rw [h]; simp

theorem segAcc_n (tr : List Step) : (segAcc tr).n = numFrames tr := by
  have h := (seg_fold tr {}).1
  simpa [segAcc] using h

theorem flatMap_chunks_flatten (k : Nat) (hk : 0 < k) (L : List (List Nat)) :
    (L.flatMap (chunksOf k)).flatten = L.flatten := by
  induction L with
  | nil => rfl
  | cons l L ih => simp [List.flatMap_cons, chunksOf_flatten k hk, ih]

/-- monitor counters ↔ file accumulator of the test sink ↔ request accumulator: the starts `s0` have been
served completely, each by a closed file; while a recording is open the last start was made `tCount` frames
ago and the run since then is the open file -/
structure TestJ (c : PCfg) (n : Nat) (tOpen : Bool) (tCount : Nat) (pending : Bool) (a : FAcc) (t : TAcc) :
    Prop where
  frames : t.n = n
  pend : t.pending = pending
  excl : (tOpen && pending) = false
  open_iff : tOpen = decide (0 < tCount)
  count_le : tCount ≤ c.testLast
  count_le_n : tCount ≤ n
  served : ∃ s0, t.starts = s0 ++ (if tOpen then [n - tCount] else []) ∧ (∀ b ∈ s0, b + (c.testLast + 1) ≤ n) ∧
    a.done = s0.map (List.range' · (c.testLast + 1)) ∧
    a.cur = if tOpen then some (List.range' (n - tCount) tCount) else none

theorem test_frame (c : PCfg) (m : M17) (a : FAcc) (t : TAcc) (mo : Bool) (f : Faults) (obs : List Obs)
    (ht : (M17.step c m ⟨.frame mo f, obs⟩).tainted = false)
    (hf : (M17.step c m ⟨.frame mo f, obs⟩).fails = [])
    (h : TestJ c m.n m.tOpen m.tCount m.pending a t) :
    TestJ c (m.n + 1) (tOpenNow m && !tClosing c m) (if tClosing c m then 0 else tCountNow m) false
      (obs.foldl (FAcc.obs .test) a) (t.step (.frame mo f)) := by
  obtain ⟨h1, h2, h3, h4, h5, h6, s0, hst, hb, hdone, hcur⟩ := h
  have hsp : tStarting m = m.pending := by
    unfold tStarting
    cases hp : m.pending
    · rfl
    · rw [hp, Bool.and_true] at h3; rw [h3]; rfl
  have h0 : m.tOpen = false → m.tCount = 0 := fun ho => by rw [ho] at h4; simpa using h4
  rw [facc_fold_obsOf, ((step_ok c m _ ht hf).2.2.2.2 rfl).2, seenT, M17.expT_eq,
    facc_cycleObs .test a m.n m.tOpen (tStarting m) _ _ hcur (fun ho => by rw [h0 ho]; rfl) (by rw [hsp]; exact h3)]
  simp only [tClosing, tCountNow, tOpenNow, hsp, TAcc.step, h1, h2]
  cases hopen : (m.tOpen || m.pending)
  · obtain ⟨ho, hp⟩ := Bool.or_eq_false_iff.mp hopen
    simp only [Bool.false_and, Bool.false_eq_true, if_false, hp, List.append_nil]
    exact ⟨rfl, rfl, rfl, by rw [h0 ho]; rfl, h5, Nat.le_succ_of_le h6, s0, by rw [hst, ho]; rfl,
      fun b hb' => Nat.le_succ_of_le (hb b hb'), hdone, by rw [hcur, ho]; rfl⟩
  · have hrun : List.range' (m.n - m.tCount) m.tCount ++ [m.n] = List.range' (m.n - m.tCount) (m.tCount + 1) := by
      rw [List.range'_concat, Nat.one_mul, Nat.sub_add_cancel h6]
    -- the start being served is the last of `starts`, whether it was made `tCount` frames ago or just now
    have hstarts : t.starts ++ (if m.pending then [m.n] else []) = s0 ++ [m.n - m.tCount] := by
      rw [hst]
      cases ho : m.tOpen
      · rw [ho, Bool.false_or] at hopen; rw [hopen, h0 ho]; simp
      · rw [ho, Bool.true_and] at h3; rw [h3]; simp
    simp only [Bool.true_and, if_true, decide_eq_true_eq, hrun, hstarts]
    by_cases hcl : m.tCount + 1 > c.testLast
    · have hfull : m.tCount = c.testLast := by omega
      simp only [hcl, decide_true, Bool.not_true, if_true]
      refine ⟨rfl, rfl, rfl, rfl, Nat.zero_le _, Nat.zero_le _, s0 ++ [m.n - m.tCount], (List.append_nil _).symm,
        ?_, by rw [hdone, List.map_append, hfull]; rfl, rfl⟩
      intro b hb'
      rcases List.mem_append.mp hb' with hb' | hb'
      · exact Nat.le_succ_of_le (hb b hb')
      · rw [List.mem_singleton.mp hb']; omega
    · simp only [hcl, decide_false, Bool.not_false, if_false]
      exact ⟨rfl, rfl, rfl, by simp, by omega, by omega, s0, by simp, fun b hb' => Nat.le_succ_of_le (hb b hb'), hdone,
        by simp⟩

theorem test_step (c : PCfg) (m : M17) (a : FAcc) (t : TAcc) (st : Step)
    (hq : quietStep st = true) (ht : (M17.step c m st).tainted = false) (hf : (M17.step c m st).fails = [])
    (h : TestJ c m.n m.tOpen m.tCount m.pending a t) :
    TestJ c (M17.step c m st).n (M17.step c m st).tOpen (M17.step c m st).tCount (M17.step c m st).pending
      (st.obs.foldl (FAcc.obs .test) a) (t.step st.ev) := by
  obtain ⟨_, _, hs, hfree, hseen⟩ := step_ok c m st ht hf
  obtain ⟨ev, obs⟩ := st
  cases ev with
  | frame mo f =>
    have := test_frame c m a t mo f obs ht hf h
    rw [M17.step_frame c m mo f obs hs]
    exact this
  | bad f =>
    rw [facc_fold_obsOf, (hseen hq).2, M17.step_bad c m f obs hs]
    exact h
  | reset f =>
    rw [facc_fold_obsOf, (hseen hq).2, M17.step_reset c m f obs hs]
    exact h
  | testReq =>
    -- a request is accepted only while no test recording is open
    obtain ⟨ho, _⟩ := Bool.or_eq_false_iff.mp (hfree rfl)
    rw [facc_fold_obsOf, (hseen hq).2, M17.step_testReq c m obs hs, hfree rfl]
    rw [ho] at h ⊢
    exact { h with pend := rfl, excl := rfl }

theorem test_final (c : PCfg) (tr : List Step)
    (hq : ∀ st ∈ tr, quietStep st = true) (hun : (tr.foldl (M17.step c) {}).tainted = false)
    (hacc : monC17 c tr = []) :
    TestJ c (tr.foldl (M17.step c) {}).n (tr.foldl (M17.step c) {}).tOpen (tr.foldl (M17.step c) {}).tCount
      (tr.foldl (M17.step c) {}).pending (fileAcc .test tr) (tAcc tr) :=
  fold_inv c .test TAcc.step (fun m a t => TestJ c m.n m.tOpen m.tCount m.pending a t) (test_step c) tr {} hq
    ⟨rfl, rfl, rfl, rfl, Nat.zero_le _, Nat.zero_le _, [], rfl, (fun _ hb => nomatch hb), rfl, rfl⟩ hun hacc

def isReq : Ev → Bool
  | .testReq => true
  | _ => false

/-- the frame count and the pending flag of the request accumulator evolve on their own -/
theorem tacc_fold : ∀ (tr : List Step) (t : TAcc),
    (tr.foldl (fun t st => t.step st.ev) t).n = t.n + numFrames tr ∧
    (tr.foldl (fun t st => t.step st.ev) t).pending =
      tr.foldl (fun o st => (o || isReq st.ev) && !st.ev.isFrame) t.pending := by
  intro tr
  induction tr with
  | nil => intro t; exact ⟨rfl, rfl⟩
  | cons st tr ih =>
    intro t
    have hn : (t.step st.ev).n = t.n + if st.ev.isFrame then 1 else 0 := by cases st.ev <;> rfl
    have hp : (t.step st.ev).pending = ((t.pending || isReq st.ev) && !st.ev.isFrame) := by
      obtain ⟨n, p, s⟩ := t
      cases st.ev <;> cases p <;> rfl
    rw [List.foldl_cons, List.foldl_cons, (ih _).1, (ih _).2, numFrames_cons, hn, hp, Nat.add_assoc]
    exact ⟨rfl, rfl⟩

theorem tAcc_n (tr : List Step) : (tAcc tr).n = numFrames tr :=
  ((tacc_fold tr {}).1).trans (Nat.zero_add _)

/-- **test files = runs of `testLast + 1` ids from the first frame after each request**, the last one cut at
the end of the trace; closed files are complete, an open one is shorter -/
theorem test_files (c : PCfg) (tr : List Step)
    (hq : ∀ st ∈ tr, quietStep st = true) (hun : (tr.foldl (M17.step c) {}).tainted = false)
    (hacc : monC17 c tr = []) :
    filesOf .test tr =
      (testStarts tr).map (fun a => List.range' a (min (c.testLast + 1) (numFrames tr - a))) ∧
    (∀ r ∈ closedFilesOf .test tr, ∃ a ∈ testStarts tr, a + (c.testLast + 1) ≤ numFrames tr ∧
      r = List.range' a (c.testLast + 1)) ∧
    (∀ r, openFileOf .test tr = some r → ∃ s0 a, testStarts tr = s0 ++ [a] ∧ a < numFrames tr ∧
      numFrames tr - a ≤ c.testLast ∧ r = List.range' a (numFrames tr - a)) := by
  obtain ⟨h1, _, _, h4, h5, h6, s0, hst, hb, hdone, hcur⟩ := test_final c tr hq hun hacc
  rw [tAcc_n] at h1
  rw [← h1] at h6 hst hb hcur
  generalize (tr.foldl (M17.step c) {}).tOpen = tOpen at h4 hst hcur
  generalize (tr.foldl (M17.step c) {}).tCount = tCount at h4 h5 h6 hst hcur
  have hs0 : s0.map (fun a => List.range' a (min (c.testLast + 1) (numFrames tr - a))) = (fileAcc .test tr).done := by
    rw [hdone]
    exact List.map_congr_left fun a ha => by rw [Nat.min_eq_left (by have := hb a ha; omega)]
  have hback : numFrames tr - (numFrames tr - tCount) = tCount := Nat.sub_sub_self h6
  refine ⟨?_, ?_, ?_⟩
  · show (fileAcc .test tr).done ++ (fileAcc .test tr).cur.toList = (tAcc tr).starts.map _
    rw [hst, hcur, List.map_append, hs0]
    cases tOpen
    · rfl
    · simp only [if_true, List.map_cons, List.map_nil, Option.toList_some, hback, Nat.min_eq_right (Nat.le_succ_of_le h5)]
  · intro r hr
    have hr' : r ∈ (fileAcc .test tr).done := hr
    rw [hdone] at hr'
    obtain ⟨a, ha, rfl⟩ := List.mem_map.mp hr'
    exact ⟨a, by rw [testStarts, hst]; exact List.mem_append_left _ ha, hb a ha, rfl⟩
  · intro r hr
    have hr' : (fileAcc .test tr).cur = some r := hr
    rw [hcur] at hr'
    split at hr'
    · next ho =>
      cases hr'
      rw [ho] at h4 hst
      exact ⟨s0, _, hst, by have := of_decide_eq_true h4.symm; omega, by omega, by rw [hback]⟩
    · cases hr'

/-! ## the model satisfies the side conditions -/

/-- the event dictates no failure on the continuous / test sink -/
def cleanEv (e : Ev) : Bool :=
  e.faults.cStart && e.faults.cWrite && e.faults.cStop && e.faults.tStart && e.faults.tWrite && e.faults.tStop

/-- the monitor's blind spots stay empty: the model calls the test sink only on frames, the continuous sink
only on frames and bad frames -/
theorem trace_quiet (c : PCfg) (evs : List Ev) (s : PState) :
    ∀ st ∈ PState.trace c s evs, quietStep st = true := by
  rintro ⟨e, obs⟩ hst
  obtain ⟨_, s', ho⟩ := mem_trace c evs s _ hst
  simp only at ho
  subst ho
  cases e with
  | frame mo f => rfl
  | bad f => rw [step_bad]; cases s'.isRec <;> cases c.constOn <;> rfl
  | reset f => rw [step_reset]; cases s'.isRec <;> rfl
  | testReq => rfl

theorem trace_noSinkFault (c : PCfg) (evs : List Ev) (s : PState) (hcl : ∀ e ∈ evs, cleanEv e = true) :
    ∀ st ∈ PState.trace c s evs, sinkFault st.obs = false := by
  intro st hst
  obtain ⟨hev, s', ho⟩ := mem_trace c evs s st hst
  have hc := hcl _ hev
  simp only [cleanEv, Bool.and_eq_true] at hc
  rw [Bool.eq_false_iff]
  intro h
  obtain ⟨o, hm, hf⟩ := List.any_eq_true.mp h
  rw [ho] at hm
  split at hf
  · next cl =>
    have := step_fail_dictated c s' st.ev .const cl hm
    cases cl <;> simp [Faults.allows, hc] at this
  · next cl =>
    have := step_fail_dictated c s' st.ev .test cl hm
    cases cl <;> simp [Faults.allows, hc] at this
  · cases hf

theorem trace_numFrames (c : PCfg) (evs : List Ev) (s : PState) :
    numFrames (PState.trace c s evs) = (evs.filter Ev.isFrame).length := by
  conv => rhs; rw [← trace_evs c evs s, List.filter_map, List.length_map]
  rfl

theorem tAcc_snoc (tr : List Step) (st : Step) : tAcc (tr ++ [st]) = (tAcc tr).step st.ev := by
  simp only [tAcc, List.foldl_append, List.foldl_cons, List.foldl_nil]

theorem numFrames_append (a b : List Step) : numFrames (a ++ b) = numFrames a + numFrames b := by
  simp [numFrames, List.filter_append]

/-- a request is pending: the trace ends with a `.testReq` step followed by steps that are not frames -/
def Pend (tr : List Step) : Prop :=
  ∃ pre q mid, tr = pre ++ q :: mid ∧ q.ev = .testReq ∧ ∀ s ∈ mid, s.ev.isFrame = false

/-- `pending` is a flag that requests set and frames clear -/
theorem pending_iff (tr : List Step) : (tAcc tr).pending = true ↔ Pend tr := by
  rw [tAcc, (tacc_fold tr {}).2]
  refine (latch_false_iff _ (fun st : Step => isReq st.ev) (fun st => st.ev.isFrame) (fun _ _ => rfl) tr).trans ?_
  have hreq : ∀ e : Ev, isReq e = true ↔ e = .testReq := fun e => by cases e <;> simp [isReq]
  constructor
  · rintro ⟨pre, q, mid, e, hq, hmid⟩
    exact ⟨pre, q, mid, e, (hreq _).mp hq, fun s hs => hmid s (List.mem_cons_of_mem _ hs)⟩
  · rintro ⟨pre, q, mid, e, hq, hmid⟩
    exact ⟨pre, q, mid, e, (hreq _).mpr hq, List.forall_mem_cons.mpr ⟨by rw [hq]; rfl, hmid⟩⟩

/-- `a` is a test start iff it is the id of a frame step that is the first frame step after a `.testReq`
step: the trace reads `pre ++ f :: post` with `f` a frame step, `a` the number of frame steps in `pre`, and
`pre` ending in a request followed by non-frame steps only -/
theorem mem_testStarts : ∀ (tr : List Step) (a : Nat), a ∈ testStarts tr ↔
    ∃ pre f post, tr = pre ++ f :: post ∧ f.ev.isFrame = true ∧ Pend pre ∧ a = numFrames pre := by
  apply snoc_induction
  · intro a
    constructor
    · intro h; cases h
    · rintro ⟨pre, f, post, h, _⟩
      cases pre <;> cases h
  · intro tr st ih a
    have hdec : (∃ pre f post, tr ++ [st] = pre ++ f :: post ∧ f.ev.isFrame = true ∧ Pend pre ∧ a = numFrames pre) ↔
        (a ∈ testStarts tr ∨ (st.ev.isFrame = true ∧ Pend tr ∧ a = numFrames tr)) := by
      rw [ih]
      constructor
      · rintro ⟨pre, f, post, h, hf, hp, ha⟩
        rcases snoc_eq_append_cons tr pre post st f h with ⟨_, rfl, rfl⟩ | ⟨post', rfl, rfl⟩
        · exact Or.inr ⟨hf, hp, ha⟩
        · exact Or.inl ⟨pre, f, post', rfl, hf, hp, ha⟩
      · rintro (⟨pre, f, post, rfl, hf, hp, ha⟩ | ⟨hf, hp, ha⟩)
        · exact ⟨pre, f, post ++ [st], by simp, hf, hp, ha⟩
        · exact ⟨tr, st, [], rfl, hf, hp, ha⟩
    rw [hdec]
    show a ∈ (tAcc (tr ++ [st])).starts ↔ _
    rw [tAcc_snoc, ← pending_iff, ← tAcc_n]
    cases hev : st.ev with
    | frame mo f =>
      simp only [TAcc.step, List.mem_append, Ev.isFrame, true_and]
      cases hp : (tAcc tr).pending
      · simp [testStarts]
      · simp [testStarts]
    | bad f | reset f | testReq => simp [TAcc.step, Ev.isFrame, testStarts]

/-- in `pre ++ f :: post` the step `f` sits at position `pre.length`; its frame id is `numFrames pre` -/
theorem frameIdAt_append (pre : List Step) (f : Step) (post : List Step) :
    frameIdAt (pre ++ f :: post) pre.length = numFrames pre := by
  simp [frameIdAt]

end TR.C17Spec
