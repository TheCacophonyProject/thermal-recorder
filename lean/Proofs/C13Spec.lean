import TR.ProcMon
import Proofs.Scan
/-!
# Proofs.C13Spec — what acceptance by the C13 monitor means, as a plain statement about positions

`monC13` (`TR.ProcMon`) folds the state machine `M13.step` over an observed trace.  Here the monitor is
characterised, for EVERY trace, by a statement that does not mention it.

* `Step.isBad` — the step's event is a frame the parser rejected;
* `openAfter tr` — a motion recording is open after the steps `tr`, the way C13 counts it: a successful
  `StartRecording` on the motion sink observed on a step that is not a bad frame opens one; a
  `StopRecording` on the motion sink (any step) and a bad frame close it (`openBefore_spec`);
  `openBefore tr i = openAfter (tr.take i)`;
* `BadFrameRule tr` — no step writes the id `garbage` to any sink, and a bad-frame step has no write at all,
  no start attempt on the motion sink, and carries the motion stop if a recording was open before it;
* `fold_monitor`: the monitor is the scan of `stepOk` along `nextOpen`; with `badFrameRule_iff` this gives
  `monC13_iff : monC13 tr = [] ↔ BadFrameRule tr` (`Props.C13Spec`).
-/
namespace TR.C13Spec

/-- the step's event is a frame the parser rejected -/
def _root_.TR.Step.isBad (s : Step) : Bool :=
  match s.ev with
  | .bad _ => true
  | _ => false

/-- the effect of one step on "a motion recording is open", as C13 counts it: a bad frame closes; on any
other step a successful start opens and a stop closes (the stop wins when both are observed) -/
def nextOpen (o : Bool) (s : Step) : Bool := !s.isBad && (o || hasStartOk s.obs) && !hasStop s.obs

/-- "a motion recording is open" after the steps `l`, when it was `o` before them -/
def openFrom (o : Bool) (l : List Step) : Bool := l.foldl nextOpen o

/-- a motion recording is open after the steps `tr` (initially none is); see `openBefore_spec` -/
def openAfter (tr : List Step) : Bool := openFrom false tr

/-- a motion recording is open before step `i` -/
def openBefore (tr : List Step) (i : Nat) : Bool := openAfter (tr.take i)

/-- **the plain rule**: the id `garbage` (content of a rejected frame) is never written to any sink; and a
bad-frame step has no write at all, no start attempt on the motion sink, and — if a motion recording was
open before it — carries the motion stop -/
def BadFrameRule (tr : List Step) : Prop :=
  (∀ st ∈ tr, writesGarbage st.obs = false) ∧
  ∀ i (h : i < tr.length) (f : Faults), tr[i].ev = .bad f →
    anyWrite tr[i].obs = false ∧ hasStartAny tr[i].obs = false ∧
    (openBefore tr i = true → hasStop tr[i].obs = true)

theorem openBefore_succ (tr : List Step) (i : Nat) (h : i < tr.length) :
    openBefore tr (i + 1) = nextOpen (openBefore tr i) tr[i] :=
  foldl_take_succ nextOpen false tr i h

theorem isBad_iff (s : Step) : s.isBad = true ↔ ∃ f, s.ev = .bad f := by
  obtain ⟨ev, obs⟩ := s
  cases ev <;> simp [Step.isBad]

theorem forall_bad_iff (s : Step) (p : Prop) : (∀ f, s.ev = .bad f → p) ↔ (s.isBad = true → p) :=
  ⟨fun h hb => ((isBad_iff s).mp hb).elim h, fun h f he => h ((isBad_iff s).mpr ⟨f, he⟩)⟩

/-- what the rule demands of one step, given the flag before it -/
def stepOk (o : Bool) (s : Step) : Bool :=
  !writesGarbage s.obs &&
    (!s.isBad || (!anyWrite s.obs && !hasStartAny s.obs && (!o || hasStop s.obs)))

/-- executable `BadFrameRule` -/
def badFrameRuleB (tr : List Step) : Bool := scanAll nextOpen stepOk false tr

theorem stepOk_iff (o : Bool) (s : Step) :
    stepOk o s = true ↔
      writesGarbage s.obs = false ∧
      ∀ f, s.ev = .bad f →
        anyWrite s.obs = false ∧ hasStartAny s.obs = false ∧ (o = true → hasStop s.obs = true) := by
  rw [forall_bad_iff, stepOk]
  cases s.isBad <;> cases o <;> simp [and_assoc]

theorem badFrameRule_iff (tr : List Step) : BadFrameRule tr ↔ badFrameRuleB tr = true := by
  rw [badFrameRuleB, scanAll_iff]
  constructor
  · rintro ⟨hg, hb⟩ i hi
    exact (stepOk_iff _ _).mpr ⟨hg _ (List.getElem_mem hi), hb i hi⟩
  · intro h
    refine ⟨fun st hm => ?_, fun i hi => ((stepOk_iff _ _).mp (h i hi)).2⟩
    obtain ⟨i, hi, rfl⟩ := List.mem_iff_getElem.mp hm
    exact ((stepOk_iff _ _).mp (h i hi)).1

instance (tr : List Step) : Decidable (BadFrameRule tr) :=
  decidable_of_iff _ (badFrameRule_iff tr).symm

theorem m13_open (m : M13) (s : Step) : (M13.step m s).openRec = nextOpen m.openRec s := by
  obtain ⟨ev, obs⟩ := s
  cases ev <;> simp [M13.step, nextOpen, Step.isBad]

theorem m13_fails (m : M13) (s : Step) :
    (M13.step m s).fails = [] ↔ m.fails = [] ∧ stepOk m.openRec s = true := by
  obtain ⟨ev, obs⟩ := s
  cases ev <;>
    simp only [M13.step, stepOk, Step.isBad, List.append_eq_nil_iff, ite_singleton_nil, Bool.and_eq_true,
      Bool.or_eq_true, Bool.not_eq_true', Bool.not_true, Bool.not_false, Bool.false_or, Bool.true_or,
      and_true, and_assoc]
  cases m.openRec <;> cases hasStop obs <;> simp

/-- the monitor's flag is `openFrom` of the steps processed so far, and it reports nothing iff it had
reported nothing and the rule holds along them -/
theorem fold_monitor (tr : List Step) (m : M13) :
    (tr.foldl M13.step m).openRec = openFrom m.openRec tr ∧
    ((tr.foldl M13.step m).fails = [] ↔ m.fails = [] ∧ scanAll nextOpen stepOk m.openRec tr = true) :=
  monitor_fold M13.step (·.openRec) (·.fails) nextOpen stepOk m13_open m13_fails tr m

end TR.C13Spec
