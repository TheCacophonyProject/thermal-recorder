import Proofs.PipeSim
/-!
# Proofs.PipeC04 — where a motion file starts, with the window / disk gates changing while streaming

Over the histories of `Proofs.PipeSim` (`runG`, one step `Pipe.gop` with the gates of the moment).

* counting successful `StartRecording` calls on the motion sink (`startCount`): one processor step makes at
  most one, none on an event that is not a frame;
* a step of a trace adds as many recordings as it makes such calls (`recordings_snoc_length`); `motionStarts` is
  the length of `motionFiles` (`motionStarts_eq_files`);
* throttle off the motion files are the recordings (`PipeSim.sim_motionFiles`), so a step adds as many motion
  files as the processor step makes such calls (`motionStarts_gop`);
* throttle on (`Proofs.PipeThr`): with `minLenFrames ≥ 1` a step adds at most as many (`motionStarts_gop_thr`).
-/
namespace TR.PipeC04
open TR TR.C01Spec TR.PipeSim

variable {F : FloatOps}

/-- number of motion files started so far -/
def motionStarts (p : Pipe F) : Nat := (p.files.filter (·.kind == .motion)).length

/-- number of successful `StartRecording` calls on the motion sink in an observation list -/
def startCount (obs : List Obs) : Nat := obs.countP (fun o => hasStartOk [o])

theorem startCount_nil : startCount [] = 0 := rfl

theorem startCount_cons (o : Obs) (os : List Obs) :
    startCount (o :: os) = startCount os + (if hasStartOk [o] = true then 1 else 0) := by
  simp only [startCount, List.countP_cons]

theorem startCount_append (a b : List Obs) : startCount (a ++ b) = startCount a + startCount b := by
  simp only [startCount, List.countP_append]

theorem startCount_eq_zero_iff (obs : List Obs) : startCount obs = 0 ↔ hasStartOk obs = false := by
  simp only [startCount, hasStartOk, List.countP_eq_zero, List.any_eq_false, List.any_cons, List.any_nil,
    Bool.or_false]

theorem startCount_pos_iff (obs : List Obs) : 0 < startCount obs ↔ hasStartOk obs = true := by
  rw [Nat.pos_iff_ne_zero, Ne, startCount_eq_zero_iff, Bool.not_eq_false]

theorem startCount_of_silent {obs : List Obs} (h : P03.Silent obs) : startCount obs = 0 :=
  (startCount_eq_zero_iff obs).mpr h.2.1

theorem pStop_startCount (f : Faults) (s : PState) : startCount (pStop f s).2 = 0 := by
  rw [pStop_eq]; split <;> rfl

theorem process_startCount (c : PCfg) (s : PState) (motion : Bool) (f : Faults) :
    startCount (PState.process c s motion f).2 = if starts c s motion f = true then 1 else 0 := by
  cases hs : starts c s motion f
  · exact (startCount_eq_zero_iff _).mpr ((process_summary c s motion f).1.trans hs)
  · rcases process_cases c s motion f with ⟨hr, _⟩ | ⟨_, hs', _⟩ | ⟨_, _, _, e⟩
    · simp [starts, P03.attempt, hr] at hs
    · rw [hs] at hs'; cases hs'
    · rw [e, andThen_snd, startCount_append, startCount_append, startCount_append, pStop_startCount,
        (startCount_eq_zero_iff _).mpr (preRun_quiet s f).2.1]
      rfl

theorem step_startCount_nonframe (c : PCfg) (s : PState) (e : Ev) (h : e.isFrame = false) :
    startCount (PState.step c s e).2 = 0 := by
  cases e with
  | frame m f => cases h
  | bad f => rw [step_bad]; cases s.isRec <;> cases c.constOn <;> rfl
  | reset f => rw [step_reset]; cases s.isRec <;> rfl
  | testReq => rfl

/-- **one processor step makes one successful `StartRecording` call on the motion sink, or none** -/
theorem step_startCount_eq (c : PCfg) (s : PState) (e : Ev) :
    startCount (PState.step c s e).2 = if hasStartOk (PState.step c s e).2 = true then 1 else 0 := by
  by_cases hfr : e.isFrame = false
  · have h := step_startCount_nonframe c s e hfr
    rw [h, if_neg (by rw [(startCount_eq_zero_iff _).mp h]; exact Bool.false_ne_true)]
  · cases e with
    | frame m f =>
      rw [(P03.frame_summary c s m f).1, step_frame, startCount_append, startCount_append, process_startCount,
        startCount_of_silent (constObs_silent ..), startCount_of_silent (testObs_silent ..)]
      rfl
    | _ => exact absurd rfl hfr

theorem step_startCount_le (c : PCfg) (s : PState) (e : Ev) : startCount (PState.step c s e).2 ≤ 1 := by
  rw [step_startCount_eq]; split <;> omega

theorem quiet_one (o : Obs) (h : accQuiet o = true) : hasStartOk [o] = false := by
  cases o with
  | call s cl ok => cases s <;> cases cl <;> cases ok <;> first | rfl | exact absurd h (by simp [accQuiet])
  | _ => rfl

theorem acc_obs_length (a : RecAcc) (o : Obs) : (a.obs o).all.length = a.all.length + startCount [o] := by
  rcases acc_cases o with hq | rfl | ⟨id, ok, rfl⟩ | ⟨ok, rfl⟩
  · rw [acc_quiet a o hq, (startCount_eq_zero_iff [o]).mpr (quiet_one o hq)]; rfl
  · rw [acc_start]; exact List.length_append
  · rw [acc_write]
    obtain ⟨d, cu⟩ := a
    cases cu <;> cases ok <;>
      simp only [RecAcc.all, Option.map, Option.toList, List.length_append, List.length_cons, List.length_nil] <;> rfl
  · rw [acc_stop]; exact congrArg List.length (List.append_nil _)

theorem acc_fold_length : ∀ (os : List Obs) (a : RecAcc),
    (os.foldl RecAcc.obs a).all.length = a.all.length + startCount os := by
  intro os
  induction os with
  | nil => intro a; rfl
  | cons o os ih =>
    intro a
    rw [List.foldl_cons, ih, acc_obs_length, startCount_cons o os, startCount_cons o [], startCount_nil]
    omega

/-- the number of recordings of a trace grows, step by step, by the number of successful starts -/
theorem recordings_snoc_length (tr : List Step) (st : Step) :
    (recordings (tr ++ [st])).length = (recordings tr).length + startCount st.obs := by
  simp only [recordings, recAcc_append, acc_fold_length]

theorem motionStarts_eq (p : Pipe F) : motionStarts p = (mot p.files).length := rfl

theorem motionStarts_eq_files (p : Pipe F) : motionStarts p = (motionFiles p).length := by
  rw [motionStarts_eq, motionFiles_eq]; simp

/-- **the number of motion files grows by the number of successful `StartRecording` calls of the processor
step** (throttle off) -/
theorem motionStarts_gop (c : PipeCfg) (hK : 0 < c.proc.K) (hthr : c.throttle = false) (p : Pipe F)
    (evs : List Ev) (g : GOp) (hs : Sim c p evs) :
    motionStarts (Pipe.gop c p g) =
      motionStarts p + startCount (PState.step c.proc p.proc (Pipe.evOf c p g)).2 := by
  rw [motionStarts_eq_files, motionStarts_eq_files, sim_motionFiles (sim_gop c hK p evs g hs) hthr,
    sim_motionFiles hs hthr, trOf, trace_snoc, recordings_snoc_length, ← hs.proc]

/-- an event that is not an accepted frame, while no recording is open, leaves the start-relevant state alone -/
theorem step_nonframe_idle (c : PCfg) (s : PState) (e : Ev) (he : e.isFrame = false) (hrec : s.isRec = false) :
    (PState.step c s e).1.isRec = false ∧ (PState.step c s e).1.triggered = s.triggered := by
  cases e with
  | frame m f => cases he
  | bad f => rw [step_bad, hrec, if_neg Bool.false_ne_true]; exact ⟨rfl, rfl⟩
  | reset f => rw [step_reset, hrec, if_neg Bool.false_ne_true]; exact ⟨hrec, rfl⟩
  | testReq => exact ⟨hrec, rfl⟩

/-- the step is a socket frame the parser accepts -/
def AcceptedFrame (c : PipeCfg) (g : GOp) : Prop :=
  ∃ bytes pix tel, g.op = .item (.frame bytes) ∧ parseItem c bytes = .ok pix tel

theorem evOf_not_frame (c : PipeCfg) (p : Pipe F) (g : GOp) (h : ¬ AcceptedFrame c g) :
    (Pipe.evOf c p g).isFrame = false := by
  rcases evOf_cases c p g with ⟨_, h2⟩ | ⟨_, h2⟩ | ⟨_, _, _, _, _, h2⟩ | ⟨bytes, pix, tel, hop, hparse, _⟩
  · rw [h2]; rfl
  · rw [h2]; rfl
  · rw [h2]; rfl
  · exact absurd ⟨bytes, pix, tel, hop, hparse⟩ h

open TR.PipeThr

theorem mot_len_updOpen (fs : List RecFile) (k : FileKind) (u : RecFile → RecFile)
    (hu : ∀ x, (u x).kind = x.kind) : (mot (Pipe.updOpen fs k u)).length = (mot fs).length := by
  by_cases hk : k = .motion
  · subst hk
    rw [updOpen_mot_motion fs u hu, PipeLemmas.updOpen_length]
  · rw [updOpen_mot_other fs k u hk hu]

/-- with `minLen ≥ 1` one file operation adds a motion file only at a successful upstream start -/
theorem oneOp_mot_len (c : PipeCfg) (hM : 0 < c.minLenFrames) {p q : Pipe F} {o : Obs} (h : OneOp c p o q) :
    (mot q.files).length ≤ (mot p.files).length + startCount [o] := by
  cases h with
  | same q hf hd => rw [hf]; exact Nat.le_add_right _ _
  | start q k t hf hd hk =>
    show (mot (_ :: q.files)).length ≤ _
    rw [hf]
    by_cases hkm : k = .motion
    · rw [mot_cons_motion _ _ hkm, (hk hkm).1]; exact Nat.le_refl _
    · rw [mot_cons_other _ _ hkm]; exact Nat.le_add_right _ _
  | write q k id hf hd =>
    show (mot (Pipe.updOpen q.files k _)).length ≤ _
    rw [mot_len_updOpen q.files k (fun f => { f with frames := f.frames ++ [id] }) (fun _ => rfl), hf]
    exact Nat.le_add_right _ _
  | stop q k hf hd =>
    show (mot (Pipe.updOpen q.files k _)).length ≤ _
    rw [mot_len_updOpen q.files k (fun f => { f with closed := true }) (fun _ => rfl), hf]
    exact Nat.le_add_right _ _
  | empty q hf hd hM0 => omega

/-- **throttle on, `minLen ≥ 1`: a step adds at most as many motion files as the processor step makes
successful `StartRecording` calls** -/
theorem motionStarts_gop_thr (c : PipeCfg) (hK : 0 < c.proc.K) (hthr : c.throttle = true)
    (hM : 0 < c.minLenFrames) (p : Pipe F) (evs : List Ev) (g : GOp) (h : Sim c p evs) :
    motionStarts (Pipe.gop c p g) ≤
      motionStarts p + startCount (PState.step c.proc p.proc (Pipe.evOf c p g)).2 := by
  -- `hK`, `hthr`, `hM`, `h.thr hthr` speak of `c`: the gates touch nothing but `Pipe.faults`, so `proc`, `throttle`,
  -- `minLenFrames` and `TI` of `withGates c g` are those of `c` by definition (`sim_withGates`)
  have hb := (ti_op (withGates c g) hK hthr
    (fun p os q => (mot q.files).length ≤ (mot p.files).length + startCount os) (fun _ => Nat.le_refl _)
    (fun p o q os r h1 h2 => by
      have := oneOp_mot_len (withGates c g) hM h1
      rw [startCount_cons o [], startCount_nil] at this
      rw [startCount_cons]
      omega)
    p evs g.op h.proc (h.thr hthr)).2
  rw [motionStarts_eq, motionStarts_eq]
  show (mot (Pipe.op (withGates c g) p g.op).files).length ≤ _
  rw [(op_shape (withGates c g) p g.op).2.1, ← (fed_fields (withGates c g) p g.op).1]
  exact hb

end TR.PipeC04
