/-!
# Proofs.Scan — folds that check something at every position

A monitor is a fold whose state has a part that evolves on its own and a list of complaints that stays empty
exactly as long as a check on (that part, element) passes.  `monitor_sim` / `monitor_fold` say once what that
means for a whole list: nothing is reported iff `scanAll` holds; `scanAll_iff` (`scanAll_iff_split`) turns that
into "for every position (every cut `a ++ x :: b`), the check passes in the state reached by folding over the
elements before it".  `latch_iff` reads a set/clear flag folded over a list as a statement about positions;
`fold_rel` (with `fold_ok`) carries a relation between a monitor and an accumulator along an accepted run.

The rest is what the specification and pipeline files share about lists and that core does not have in this form:
folds that ignore or fix elements, `scanAll` over appended, nested and filtered lists, a list cut at a position, at the
last element with a property or from the right, prefixes of an append or of a range, and when a monitor's "complaint
or nothing" is nothing (`ite_singleton_nil` and its siblings).
-/
namespace TR

theorem ite_singleton_nil {ε : Type} {b : Bool} {x : ε} : (if b = true then [x] else []) = [] ↔ b = false := by
  cases b <;> simp

theorem ite_else_singleton_nil {ε : Type} {p : Prop} [Decidable p] {x : ε} : (if p then [] else [x]) = [] ↔ p := by
  split <;> simp [*]

theorem ite_ite_nil_iff {c d : Prop} [Decidable c] [Decidable d] (x : String) :
    (if c then [] else if d then [] else [x]) = [] ↔ (c ∨ d) := by
  by_cases h : c <;> by_cases h' : d <;> simp [h, h']

/-- `chk` holds at every element of the list, in the state reached by folding `upd` over the elements
before it -/
def scanAll {σ α : Type} (upd : σ → α → σ) (chk : σ → α → Bool) : σ → List α → Bool
  | _, [] => true
  | st, x :: xs => chk st x && scanAll upd chk (upd st x) xs

theorem scanAll_iff {σ α : Type} (upd : σ → α → σ) (chk : σ → α → Bool) :
    ∀ (l : List α) (st : σ), scanAll upd chk st l = true ↔
      ∀ i (h : i < l.length), chk ((l.take i).foldl upd st) l[i] = true := by
  intro l
  induction l with
  | nil => intro st; exact ⟨fun _ i h => absurd h (Nat.not_lt_zero _), fun _ => rfl⟩
  | cons a l ih =>
    intro st
    rw [scanAll, Bool.and_eq_true, ih]
    constructor
    · rintro ⟨h0, hs⟩ i h
      cases i with
      | zero => exact h0
      | succ i => exact hs i (Nat.lt_of_succ_lt_succ h)
    · intro h
      exact ⟨h 0 (Nat.zero_lt_succ _), fun i hi => h (i + 1) (Nat.succ_lt_succ hi)⟩

theorem scanAll_iff_split {σ α : Type} (upd : σ → α → σ) (chk : σ → α → Bool) : ∀ (l : List α) (st : σ),
    scanAll upd chk st l = true ↔ ∀ a x b, l = a ++ x :: b → chk (a.foldl upd st) x = true := by
  intro l
  induction l with
  | nil => intro st; exact ⟨fun _ a x b h => absurd h (by simp), fun _ => rfl⟩
  | cons y l ih =>
    intro st
    rw [scanAll, Bool.and_eq_true, ih]
    constructor
    · rintro ⟨h0, h⟩ a x b e
      cases a with
      | nil => obtain ⟨rfl, rfl⟩ := List.cons.inj e; exact h0
      | cons z a => obtain ⟨rfl, rfl⟩ := List.cons.inj e; exact h a x b rfl
    · exact fun h => ⟨h [] y l rfl, fun a x b e => h (y :: a) x b (by rw [e]; rfl)⟩

theorem foldl_take_succ {σ α : Type} (upd : σ → α → σ) (st : σ) (l : List α) (i : Nat) (h : i < l.length) :
    (l.take (i + 1)).foldl upd st = upd ((l.take i).foldl upd st) l[i] := by
  rw [← List.take_append_getElem h, List.foldl_append, List.foldl_cons, List.foldl_nil]

theorem foldl_fixed {μ α : Type} (f : μ → α → μ) (m : μ) :
    ∀ l : List α, (∀ a ∈ l, f m a = m) → l.foldl f m = m := by
  intro l
  induction l with
  | nil => intro _; rfl
  | cons a l ih =>
    intro h
    rw [List.foldl_cons, h a (List.mem_cons_self ..)]
    exact ih fun b hb => h b (List.mem_cons_of_mem _ hb)

theorem foldl_congr_mem {α β : Type} (l : List α) (f g : β → α → β)
    (h : ∀ b, ∀ a ∈ l, f b a = g b a) (b0 : β) : l.foldl f b0 = l.foldl g b0 := by
  induction l generalizing b0 with
  | nil => rfl
  | cons a l ih =>
    simp only [List.foldl_cons]
    rw [h b0 a (by simp)]
    exact ih (fun b a' ha' => h b a' (by simp [ha'])) _

theorem any_congr_mem {α : Type} (l : List α) (p q : α → Bool)
    (h : ∀ a ∈ l, p a = q a) : l.any p = l.any q := by
  induction l with
  | nil => rfl
  | cons a l ih =>
    simp only [List.any_cons]
    rw [h a (by simp), ih (fun a' ha' => h a' (by simp [ha']))]

theorem fold_pair {A B α : Type} (fa : A → α → A) (fb : B → α → B) : ∀ (l : List α) (a : A) (b : B),
    l.foldl (fun x y => (fa x.1 y, fb x.2 y)) (a, b) = (l.foldl fa a, l.foldl fb b) := by
  intro l
  induction l with
  | nil => intro a b; rfl
  | cons y l ih => intro a b; simp only [List.foldl_cons, ih]

/-- a monitor, from any state: `R` ties the monitor's state to the scanned state -/
theorem monitor_sim {μ σ α ε : Type} (step : μ → α → μ) (fails : μ → List ε) (upd : σ → α → σ)
    (chk : σ → α → Bool) (R : μ → σ → Prop) (P : α → Prop)
    (hstep : ∀ m s a, P a → R m s →
      R (step m a) (upd s a) ∧ (fails (step m a) = [] ↔ fails m = [] ∧ chk s a = true)) :
    ∀ (l : List α) (m : μ) (s : σ), (∀ a ∈ l, P a) → R m s →
      R (l.foldl step m) (l.foldl upd s) ∧
      (fails (l.foldl step m) = [] ↔ fails m = [] ∧ scanAll upd chk s l = true) := by
  intro l
  induction l with
  | nil => intro m s _ h; exact ⟨h, (and_iff_left rfl).symm⟩
  | cons a l ih =>
    intro m s hp h
    obtain ⟨h1, h2⟩ := hstep m s a (hp a (List.mem_cons_self ..)) h
    obtain ⟨h3, h4⟩ := ih _ _ (fun b hb => hp b (List.mem_cons_of_mem _ hb)) h1
    exact ⟨h3, by rw [List.foldl_cons, h4, h2, scanAll, Bool.and_eq_true, and_assoc]⟩

/-- the scanned state is a projection `core` of the monitor's state -/
theorem monitor_fold {μ σ α ε : Type} (step : μ → α → μ) (core : μ → σ) (fails : μ → List ε)
    (upd : σ → α → σ) (chk : σ → α → Bool)
    (hcore : ∀ m a, core (step m a) = upd (core m) a)
    (hfails : ∀ m a, fails (step m a) = [] ↔ fails m = [] ∧ chk (core m) a = true) (l : List α) (m : μ) :
    core (l.foldl step m) = l.foldl upd (core m) ∧
    (fails (l.foldl step m) = [] ↔ fails m = [] ∧ scanAll upd chk (core m) l = true) :=
  monitor_sim step fails upd chk (fun m s => core m = s) (fun _ => True)
    (fun m _ a _ h => h ▸ ⟨hcore m a, hfails m a⟩) l m (core m) (fun _ _ => trivial) rfl

/-- a flag that elements set and clear (clearing wins) -/
theorem latch_iff {α : Type} (f : Bool → α → Bool) (set clr : α → Bool)
    (hf : ∀ o x, f o x = ((o || set x) && !clr x)) : ∀ (l : List α) (o : Bool),
    l.foldl f o = true ↔
      (o = true ∧ ∀ x ∈ l, clr x = false) ∨
        ∃ pre st post, l = pre ++ st :: post ∧ set st = true ∧ ∀ x ∈ st :: post, clr x = false := by
  intro l
  induction l with
  | nil =>
    intro o
    constructor
    · intro h; exact Or.inl ⟨h, fun _ hm => by cases hm⟩
    · rintro (⟨h, _⟩ | ⟨pre, st, post, h, _⟩)
      · exact h
      · cases pre <;> cases h
  | cons a l ih =>
    intro o
    rw [List.foldl_cons, ih, hf]
    simp only [List.forall_mem_cons, Bool.and_eq_true, Bool.or_eq_true, Bool.not_eq_true']
    constructor
    · rintro (⟨⟨h1 | h1, h2⟩, hn⟩ | ⟨pre, st, post, h, hs, hn⟩)
      · exact Or.inl ⟨h1, h2, hn⟩
      · exact Or.inr ⟨[], a, l, rfl, h1, h2, hn⟩
      · exact Or.inr ⟨a :: pre, st, post, by rw [h]; rfl, hs, hn⟩
    · rintro (⟨h, h2, hn⟩ | ⟨pre, st, post, h, hs, hn⟩)
      · exact Or.inl ⟨⟨Or.inl h, h2⟩, hn⟩
      · cases pre with
        | nil =>
          obtain ⟨rfl, rfl⟩ := List.cons.inj h
          exact Or.inl ⟨⟨Or.inr hs, hn.1⟩, hn.2⟩
        | cons p pre => exact Or.inr ⟨pre, st, post, (List.cons.inj h).2, hs, hn⟩

theorem latch_false_iff {α : Type} (f : Bool → α → Bool) (set clr : α → Bool)
    (hf : ∀ o x, f o x = ((o || set x) && !clr x)) (l : List α) :
    l.foldl f false = true ↔
      ∃ pre st post, l = pre ++ st :: post ∧ set st = true ∧ ∀ x ∈ st :: post, clr x = false := by
  rw [latch_iff f set clr hf]
  exact ⟨fun h => h.resolve_left (fun h => Bool.noConfusion h.1), Or.inr⟩

theorem scanAll_append {σ α : Type} (upd : σ → α → σ) (chk : σ → α → Bool) :
    ∀ (a b : List α) (st : σ),
      scanAll upd chk st (a ++ b) = (scanAll upd chk st a && scanAll upd chk (a.foldl upd st) b) := by
  intro a
  induction a with
  | nil => intro b st; rfl
  | cons x a ih => intro b st; simp only [List.cons_append, scanAll, List.foldl_cons, ih, Bool.and_assoc]

theorem scanAll_flatMap {σ α β : Type} (upd : σ → α → σ) (chk : σ → α → Bool) (f : β → List α) :
    ∀ (l : List β) (st : σ),
      scanAll upd chk st (l.flatMap f) =
        scanAll (fun st x => (f x).foldl upd st) (fun st x => scanAll upd chk st (f x)) st l := by
  intro l
  induction l with
  | nil => intro st; rfl
  | cons x l ih => intro st; simp only [List.flatMap_cons, scanAll_append, scanAll, ih]

/-- Filtering out elements the step ignores changes nothing.  (Core's `List.foldl_filter`, used in the proof, only
moves the test into the step: `if p x then upd st x else st`.) -/
theorem foldl_filter {σ α : Type} (upd : σ → α → σ) (p : α → Bool) (hq : ∀ st x, p x = false → upd st x = st) :
    ∀ (l : List α) (st : σ), (l.filter p).foldl upd st = l.foldl upd st := by
  intro l st
  rw [List.foldl_filter]
  congr 1
  funext st x
  split
  · rfl
  · next h => exact (hq st x (Bool.not_eq_true _ ▸ h)).symm

theorem scanAll_filter {σ α : Type} (upd : σ → α → σ) (chk : σ → α → Bool) (p : α → Bool)
    (hq : ∀ st x, p x = false → upd st x = st) (hc : ∀ st x, p x = false → chk st x = true) :
    ∀ (l : List α) (st : σ), scanAll upd chk st (l.filter p) = scanAll upd chk st l := by
  intro l
  induction l with
  | nil => intro st; rfl
  | cons x l ih =>
    intro st
    cases hp : p x with
    | true => simp only [List.filter_cons, hp, if_true, scanAll, ih]
    | false =>
      simp only [List.filter_cons, hp, Bool.false_eq_true, if_false, scanAll, ih, hq st x hp, hc st x hp,
        Bool.true_and]

theorem exists_last_split {α : Type} (p : α → Bool) : ∀ (l : List α), l.any p = true →
    ∃ pre a post, l = pre ++ a :: post ∧ p a = true ∧ ∀ x ∈ post, p x = false := by
  intro l
  induction l with
  | nil => intro h; cases h
  | cons x l ih =>
    intro h
    cases hl : l.any p with
    | true =>
      obtain ⟨pre, a, post, he, ha, hp⟩ := ih hl
      exact ⟨x :: pre, a, post, by rw [he]; rfl, ha, hp⟩
    | false =>
      rw [List.any_cons, hl, Bool.or_false] at h
      exact ⟨[], x, l, rfl, h, fun y hy => by
        cases hy' : p y
        · rfl
        · rw [List.any_eq_false] at hl; exact absurd hy' (hl y hy)⟩

theorem getLast?_filterMap_iff {α β : Type} (f : α → Option β) (b : β) (l : List α) :
    (l.filterMap f).getLast? = some b ↔
      ∃ pre s post, l = pre ++ s :: post ∧ f s = some b ∧ ∀ x ∈ post, f x = none := by
  rw [List.getLast?_filterMap, List.findSome?_eq_some_iff]
  constructor
  · rintro ⟨l₁, a, l₂, h, ha, hn⟩
    refine ⟨l₂.reverse, a, l₁.reverse, ?_, ha, fun x hx => hn x (List.mem_reverse.1 hx)⟩
    rw [← List.reverse_reverse l, h, List.reverse_append, List.reverse_cons, List.append_assoc]
    rfl
  · rintro ⟨pre, s, post, rfl, hs, hn⟩
    refine ⟨post.reverse, s, pre.reverse, ?_, hs, fun x hx => hn x (List.mem_reverse.1 hx)⟩
    rw [List.reverse_append, List.reverse_cons, List.append_assoc]
    rfl

/-- what a step cannot regain (nothing reported, not tainted …) held all along if it holds at the end -/
theorem fold_ok {μ α : Type} (step : μ → α → μ) (ok : μ → Prop) (hmono : ∀ m a, ok (step m a) → ok m) :
    ∀ (l : List α) (m : μ), ok (l.foldl step m) → ok m := by
  intro l
  induction l with
  | nil => intro m h; exact h
  | cons a l ih => intro m h; exact hmono m a (ih _ h)

theorem fold_rel {μ X α : Type} (step : μ → α → μ) (stepX : X → α → X) (ok : μ → Prop) (P : α → Prop)
    (J : μ → X → Prop) (hmono : ∀ m a, ok (step m a) → ok m)
    (hstep : ∀ m x a, P a → ok (step m a) → J m x → J (step m a) (stepX x a)) :
    ∀ (l : List α) (m : μ) (x : X), (∀ a ∈ l, P a) → ok (l.foldl step m) → J m x →
      J (l.foldl step m) (l.foldl stepX x) := by
  intro l
  induction l with
  | nil => intro m x _ _ hj; exact hj
  | cons a l ih =>
    intro m x hp h hj
    exact ih _ _ (fun b hb => hp b (List.mem_cons_of_mem _ hb)) h
      (hstep m x a (hp a (List.mem_cons_self ..)) (fold_ok step ok hmono l _ h) hj)

theorem snoc_induction {α : Type} {P : List α → Prop} (h0 : P [])
    (hs : ∀ l x, P l → P (l ++ [x])) : ∀ l, P l := by
  have h : ∀ r : List α, P r.reverse := by
    intro r
    induction r with
    | nil => exact h0
    | cons x r ih => rw [List.reverse_cons]; exact hs _ _ ih
  intro l
  rw [← List.reverse_reverse l]
  exact h _

theorem snoc_eq_append_cons {α : Type} (l pre post : List α) (x q : α) (h : l ++ [x] = pre ++ q :: post) :
    (post = [] ∧ l = pre ∧ x = q) ∨ ∃ post', post = post' ++ [x] ∧ l = pre ++ q :: post' := by
  rcases List.eq_nil_or_concat post with rfl | ⟨post', y, rfl⟩
  · obtain ⟨e1, e2⟩ := List.append_inj' h rfl
    exact Or.inl ⟨rfl, e1, by simpa using e2⟩
  · rw [List.concat_eq_append] at h ⊢
    have h' : l ++ [x] = (pre ++ q :: post') ++ [y] := by rw [h]; simp
    obtain ⟨e1, e2⟩ := List.append_inj' h' rfl
    have e3 : x = y := by simpa using e2
    subst e3
    exact Or.inr ⟨post', rfl, e1⟩

theorem split_longer {α : Type} (pre pre' post post' : List α) (g g' : α)
    (e : pre ++ g :: post = pre' ++ g' :: post') (hl : pre.length < pre'.length) :
    ∃ mid, pre' = pre ++ g :: mid := by
  rcases List.append_eq_append_iff.mp e with ⟨a', h1, h2⟩ | ⟨c', h1, _⟩
  · cases a' with
    | nil => rw [h1, List.append_nil] at hl; exact absurd hl (Nat.lt_irrefl _)
    | cons x a'' =>
      rw [List.cons_append] at h2
      injection h2 with hx _
      exact ⟨a'', by rw [h1, hx]⟩
  · rw [h1, List.length_append] at hl
    omega

/-- a position of a list as a cut -/
theorem cut_of_getElem? {α : Type} (l : List α) (i : Nat) (x : α) (h : l[i]? = some x) :
    ∃ pre post, l = pre ++ x :: post ∧ pre.length = i := by
  obtain ⟨hi, rfl⟩ := List.getElem?_eq_some_iff.mp h
  exact ⟨l.take i, l.drop (i + 1), by rw [← List.drop_eq_getElem_cons hi, List.take_append_drop],
    List.length_take_of_le (Nat.le_of_lt hi)⟩

theorem prefix_append_cases {α : Type} {p a b : List α} (h : p <+: a ++ b) :
    p <+: a ∨ ∃ q, p = a ++ q ∧ q <+: b := by
  rcases List.prefix_or_prefix_of_prefix h (List.prefix_append a b) with h1 | ⟨q, rfl⟩
  · exact Or.inl h1
  · exact Or.inr ⟨q, rfl, (List.prefix_append_right_inj a).1 h⟩

theorem prefix_range' : ∀ (g : List Nat) (s n : Nat), g <+: List.range' s n → g = List.range' s g.length
  | [], _, _, _ => rfl
  | x :: g, s, 0, h => by
    rw [List.range'_zero] at h
    exact absurd (List.prefix_nil.mp h) (by simp)
  | x :: g, s, n + 1, h => by
    rw [List.range'_succ, List.cons_prefix_cons] at h
    obtain ⟨rfl, h⟩ := h
    rw [List.length_cons, List.range'_succ, ← prefix_range' g (x + 1) n h]

theorem forall_range_iff {α : Type} (l : List α) (i n : Nat) (P : α → Prop) :
    (∀ j x, i ≤ j → j < i + n → l[j]? = some x → P x) ↔ ∀ x ∈ (l.drop i).take n, P x := by
  constructor
  · intro h x hx
    obtain ⟨j, e⟩ := List.mem_iff_getElem?.mp hx
    have hj := (List.getElem?_eq_some_iff.mp e).1
    rw [List.length_take] at hj
    rw [List.getElem?_take_of_lt (Nat.lt_of_lt_of_le hj (Nat.min_le_left _ _)), List.getElem?_drop] at e
    exact h (i + j) x (Nat.le_add_right _ _) (Nat.add_lt_add_left (Nat.lt_of_lt_of_le hj (Nat.min_le_left _ _)) _) e
  · intro h j x h1 h2 e
    obtain ⟨d, rfl⟩ := Nat.le.dest h1
    refine h x (List.mem_iff_getElem?.mpr ⟨d, ?_⟩)
    rw [List.getElem?_take_of_lt (Nat.lt_of_add_lt_add_left h2), List.getElem?_drop]
    exact e

end TR
