import TR.Excess

/-!
# Proofs.Excess — helper lemmas for `Props.Excess` (`deleteExcessRecordings`)

Everything here is for an arbitrary test `p` on names (`TR.Excess`: the loop does not depend on the pattern).

* `dropOldestBy` — what is left of a directory after its first `k` accepted files are gone.
* The free percentage can only grow when files go.
* One pass through the loop body: `stepBy_spec`, what each outcome of `Disk.stepBy` says about the disk.
* The loop equation without fuel.
* `Good p d r` — everything the loop guarantees about its result `r` on the disk `d`, proved by
  induction on the fuel (`loopBy_good`), and what follows from it.
* A structurally recursive "contains this block" that the kernel can evaluate, and its meaning; the
  threshold in integers.
-/
namespace TR.Excess

variable (p : String → Bool)

@[simp] theorem dropOldestBy_zero (fs : List File) : dropOldestBy p 0 fs = fs := by
  cases fs <;> rfl

/-- deleting the `k + 1` oldest accepted files is removing the first accepted file and then the `k` oldest: every
fact about `dropOldestBy` below is the fact about one `List.eraseP`, repeated `k` times -/
theorem dropOldestBy_succ (k : Nat) (fs : List File) :
    dropOldestBy p (k + 1) fs = dropOldestBy p k (fs.eraseP fun f => p f.name) := by
  induction fs with
  | nil => cases k <;> rfl
  | cons f fs ih =>
    cases h : p f.name
    · cases k <;> simp [dropOldestBy, h, ih]
    · simp [dropOldestBy, h]

theorem filter_eraseP (fs : List File) :
    (fs.eraseP fun f => p f.name).filter (fun f => p f.name) = (fs.filter fun f => p f.name).tail := by
  induction fs with
  | nil => rfl
  | cons f fs ih => cases h : p f.name <;> simp [h, ih]

theorem filter_not_eraseP (fs : List File) :
    (fs.eraseP fun f => p f.name).filter (fun f => !p f.name) = fs.filter fun f => !p f.name := by
  induction fs with
  | nil => rfl
  | cons f fs ih => cases h : p f.name <;> simp [h, ih]

theorem used_le_of_sublist {a b : List File} (h : a.Sublist b) : used a ≤ used b := by
  induction h with
  | slnil => exact Nat.le_refl _
  | cons f _ ih => simp only [used, List.map_cons, List.sum_cons] at ih ⊢; omega
  | cons_cons f _ ih => simp only [used, List.map_cons, List.sum_cons] at ih ⊢; omega

theorem filter_dropOldestBy (k : Nat) (fs : List File) :
    (dropOldestBy p k fs).filter (fun f => p f.name) = (fs.filter (fun f => p f.name)).drop k := by
  induction k generalizing fs with
  | zero => rw [dropOldestBy_zero]; rfl
  | succ k ih => rw [dropOldestBy_succ, ih, filter_eraseP, List.drop_tail]

theorem filter_not_dropOldestBy (k : Nat) (fs : List File) :
    (dropOldestBy p k fs).filter (fun f => !p f.name) = fs.filter (fun f => !p f.name) := by
  induction k generalizing fs with
  | zero => rw [dropOldestBy_zero]
  | succ k ih => rw [dropOldestBy_succ, ih, filter_not_eraseP]

theorem dropOldestBy_sublist (k : Nat) (fs : List File) : (dropOldestBy p k fs).Sublist fs := by
  induction k generalizing fs with
  | zero => rw [dropOldestBy_zero]; exact List.Sublist.refl _
  | succ k ih => rw [dropOldestBy_succ]; exact (ih _).trans List.eraseP_sublist

theorem dropOldestBy_add (j k : Nat) (fs : List File) :
    dropOldestBy p j (dropOldestBy p k fs) = dropOldestBy p (k + j) fs := by
  induction k generalizing fs with
  | zero => rw [dropOldestBy_zero, Nat.zero_add]
  | succ k ih => rw [dropOldestBy_succ, ih, Nat.add_right_comm, dropOldestBy_succ]

theorem dropOldestBy_of_le (k : Nat) (fs : List File)
    (h : (fs.filter (fun f => p f.name)).length ≤ k) :
    dropOldestBy p k fs = fs.filter (fun f => !p f.name) := by
  induction k generalizing fs with
  | zero =>
    have h0 : fs.filter (fun f => p f.name) = [] := List.length_eq_zero_iff.1 (Nat.le_zero.1 h)
    rw [dropOldestBy_zero]
    exact (List.filter_eq_self.2 fun f hf => by simpa using List.filter_eq_nil_iff.1 h0 f hf).symm
  | succ k ih =>
    rw [dropOldestBy_succ, ih _ (by rw [filter_eraseP, List.length_tail]; omega), filter_not_eraseP]

@[simp] theorem afterDeletingBy_total (d : Disk) (k : Nat) : (d.afterDeletingBy p k).total = d.total := rfl
@[simp] theorem afterDeletingBy_other (d : Disk) (k : Nat) : (d.afterDeletingBy p k).other = d.other := rfl
@[simp] theorem afterDeletingBy_files (d : Disk) (k : Nat) :
    (d.afterDeletingBy p k).files = dropOldestBy p k d.files := rfl

@[simp] theorem afterDeletingBy_zero (d : Disk) : d.afterDeletingBy p 0 = d := by
  simp [Disk.afterDeletingBy]

theorem afterDeletingBy_add (d : Disk) (k j : Nat) :
    (d.afterDeletingBy p k).afterDeletingBy p j = d.afterDeletingBy p (k + j) := by
  simp [Disk.afterDeletingBy, dropOldestBy_add]

theorem matchingBy_afterDeletingBy (d : Disk) (k : Nat) :
    (d.afterDeletingBy p k).matchingBy p = (d.matchingBy p).drop k :=
  filter_dropOldestBy p k d.files

theorem unrelatedBy_afterDeletingBy (d : Disk) (k : Nat) :
    (d.afterDeletingBy p k).unrelatedBy p = d.unrelatedBy p :=
  filter_not_dropOldestBy p k d.files

theorem globBy_eq_map (d : Disk) : d.globBy p = (d.matchingBy p).map (·.name) := by
  simp [Disk.globBy, Disk.matchingBy, List.filter_map, Function.comp_def]

theorem matchingBy_length_le (d : Disk) : (d.matchingBy p).length ≤ d.files.length :=
  List.length_filter_le _ _

theorem percentLeft_mono (t o : Nat) (fs₁ fs₂ : List File) (h : used fs₂ ≤ used fs₁) :
    (Disk.mk t o fs₁).percentLeft ≤ (Disk.mk t o fs₂).percentLeft := by
  simp only [Disk.percentLeft, Disk.avail]
  apply Nat.div_le_div_right
  apply Nat.mul_le_mul_right
  omega

theorem percentLeft_afterDeletingBy_mono (d : Disk) (i j : Nat) (h : i ≤ j) :
    (d.afterDeletingBy p i).percentLeft ≤ (d.afterDeletingBy p j).percentLeft := by
  obtain ⟨m, rfl⟩ := Nat.exists_eq_add_of_le h
  rw [← afterDeletingBy_add]
  exact percentLeft_mono _ _ _ _ (used_le_of_sublist (dropOldestBy_sublist p m _))

theorem percentLeft_total_zero (d : Disk) (h : d.total = 0) : d.percentLeft = 0 := by
  simp [Disk.percentLeft, h]

theorem avail_le_total (d : Disk) : d.avail ≤ d.total := by
  simp only [Disk.avail]; omega

theorem percentLeft_le_100 (d : Disk) : d.percentLeft ≤ 100 := by
  simp only [Disk.percentLeft]
  by_cases h : d.total = 0
  · simp [h]
  · apply Nat.div_le_of_le_mul
    exact Nat.mul_le_mul_right 100 (avail_le_total d)

theorem percentLeftU64_eq_of_lt (d : Disk) (h : d.total * 100 < 2 ^ 64) : d.percentLeftU64 = d.percentLeft := by
  simp only [Disk.percentLeftU64, Disk.percentLeft]
  rw [Nat.mod_eq_of_lt]
  have := avail_le_total d
  have := Nat.mul_le_mul_right 100 this
  omega

/-- removing by name the first name the test accepts is removing the oldest accepted file -/
theorem eraseP_head_glob (n : String) (fs : List File) (rest : List String)
    (h : (fs.map (·.name)).filter p = n :: rest) :
    fs.eraseP (fun f => f.name == n) = dropOldestBy p 1 fs := by
  rw [dropOldestBy_succ, dropOldestBy_zero]
  induction fs with
  | nil => simp at h
  | cons f fs ih =>
    cases hp : p f.name with
    | true =>
      simp only [List.map_cons, List.filter_cons, hp, if_true, List.cons.injEq] at h
      rw [List.eraseP_cons_of_pos (by simp [h.1]), List.eraseP_cons_of_pos (by simp [hp])]
    | false =>
      simp only [List.map_cons, List.filter_cons, hp] at h
      have hn : p n = true := by
        have : n ∈ (fs.map (·.name)).filter p := by simp at h; rw [h]; simp
        exact (List.mem_filter.mp this).2
      have hne : (f.name == n) = false := by
        cases hb : f.name == n with
        | false => rfl
        | true => rw [eq_of_beq hb, hn] at hp; cases hp
      rw [List.eraseP_cons_of_neg (by simp [hne]), List.eraseP_cons_of_neg (by simp [hp]), ih (by simpa using h)]

theorem stepBy_spec (d : Disk) :
    match d.stepBy p with
    | .stop .divideByZero => d.total = 0
    | .stop .ok => d.total ≠ 0 ∧ 30 < d.percentLeft
    | .stop .noMoreRecordings => d.total ≠ 0 ∧ d.percentLeft ≤ 30 ∧ d.matchingBy p = []
    | .delete n => d.total ≠ 0 ∧ d.percentLeft ≤ 30 ∧ (∃ f rest, d.matchingBy p = f :: rest ∧ f.name = n) ∧
        d.remove n = d.afterDeletingBy p 1 := by
  by_cases ht : d.total = 0
  · rw [Disk.stepBy, if_pos ht]; exact ht
  · by_cases hpct : d.percentLeft > 30
    · rw [Disk.stepBy, if_neg ht, if_pos hpct]; exact ⟨ht, hpct⟩
    · cases hg : d.globBy p with
      | nil =>
        rw [Disk.stepBy, if_neg ht, if_neg hpct, hg]
        rw [globBy_eq_map] at hg
        exact ⟨ht, by omega, by simpa using hg⟩
      | cons n rest =>
        rw [Disk.stepBy, if_neg ht, if_neg hpct, hg]
        refine ⟨ht, by omega, ?_, congrArg _ (eraseP_head_glob p n d.files rest hg)⟩
        rw [globBy_eq_map] at hg
        cases hm : d.matchingBy p with
        | nil => rw [hm] at hg; cases hg
        | cons f fs => rw [hm] at hg; exact ⟨f, fs, rfl, (List.cons.inj hg).1⟩

theorem stepBy_delete (d : Disk) (n : String) (h : d.stepBy p = .delete n) :
    d.total ≠ 0 ∧ d.percentLeft ≤ 30 ∧ (∃ f rest, d.matchingBy p = f :: rest ∧ f.name = n) ∧
      d.remove n = d.afterDeletingBy p 1 := by
  have hs := stepBy_spec p d
  rwa [h] at hs

theorem stepBy_of_total_zero (d : Disk) (h : d.total = 0) : d.stepBy p = .stop .divideByZero := by
  simp [Disk.stepBy, h]

theorem stepBy_of_enough (d : Disk) (h : 30 < d.percentLeft) : d.stepBy p = .stop .ok := by
  have ht : d.total ≠ 0 := by
    intro h0; rw [percentLeft_total_zero d h0] at h; omega
  simp [Disk.stepBy, ht, h]

/-- a pass that deletes makes the directory one entry shorter (so fuel = number of files is enough) -/
theorem remove_files_length (d : Disk) (n : String) (h : d.stepBy p = .delete n) :
    (d.remove n).files.length + 1 = d.files.length := by
  obtain ⟨_, _, ⟨f, rest, hm, _⟩, hr⟩ := stepBy_delete p d n h
  have hf : f ∈ d.files ∧ p f.name = true :=
    List.mem_filter.1 (show f ∈ d.matchingBy p from hm ▸ List.mem_cons_self)
  rw [hr, afterDeletingBy_files, dropOldestBy_succ, dropOldestBy_zero, List.length_eraseP_of_mem hf.1 hf.2]
  have := List.length_pos_of_mem hf.1
  omega

theorem loopBy_stop (fuel : Nat) (d : Disk) (r : Result) (h : d.stepBy p = .stop r) :
    loopBy p fuel d = ⟨d, r, []⟩ := by
  cases fuel <;> rw [loopBy, h]

theorem loopBy_delete (fuel : Nat) (d : Disk) (n : String) (h : d.stepBy p = .delete n) :
    loopBy p (fuel + 1) d =
      { loopBy p fuel (d.remove n) with deleted := n :: (loopBy p fuel (d.remove n)).deleted } := by
  rw [loopBy, h]

theorem deleteExcessBy_equation (d : Disk) :
    deleteExcessBy p d =
      match d.stepBy p with
      | .stop r => ⟨d, r, []⟩
      | .delete n =>
        let r := deleteExcessBy p (d.remove n)
        { r with deleted := n :: r.deleted } := by
  unfold deleteExcessBy
  cases hs : d.stepBy p with
  | stop r => exact loopBy_stop p _ d r hs
  | delete n => rw [← remove_files_length p d n hs]; exact loopBy_delete p _ d n hs

/-- what the loop guarantees about its result `r` on the disk `d` -/
structure Good (d : Disk) (r : Run) : Prop where
  le : r.deleted.length ≤ (d.matchingBy p).length
  names : r.deleted = ((d.matchingBy p).take r.deleted.length).map (·.name)
  disk : r.disk = d.afterDeletingBy p r.deleted.length
  before : ∀ j, j < r.deleted.length → (d.afterDeletingBy p j).percentLeft ≤ 30
  ok : r.result = .ok → d.total ≠ 0 ∧ 30 < r.disk.percentLeft
  noMore : r.result = .noMoreRecordings →
    d.total ≠ 0 ∧ r.deleted.length = (d.matchingBy p).length ∧ r.disk.percentLeft ≤ 30
  divz : r.result = .divideByZero → d.total = 0 ∧ r.deleted = []

theorem good_stop (d : Disk) (r : Result) (h : d.stepBy p = .stop r) : Good p d ⟨d, r, []⟩ := by
  have hs := stepBy_spec p d
  rw [h] at hs
  refine ⟨by simp, by simp, by simp, by simp, ?_, ?_, ?_⟩
  · intro hr; simp only at hr; subst hr; exact hs
  · intro hr; simp only at hr; subst hr; exact ⟨hs.1, by simp [hs.2.2], hs.2.1⟩
  · intro hr; simp only at hr; subst hr; exact ⟨hs, rfl⟩

theorem good_delete (d : Disk) (n : String) (r : Run) (h : d.stepBy p = .delete n)
    (g : Good p (d.remove n) r) : Good p d { r with deleted := n :: r.deleted } := by
  obtain ⟨ht, hpct, ⟨f, rest, hm, hf⟩, hr⟩ := stepBy_delete p d n h
  have hm' : (d.remove n).matchingBy p = rest := by
    rw [hr, matchingBy_afterDeletingBy, hm]; rfl
  -- `(d.remove n).total` is `d.total` by definition
  refine ⟨?_, ?_, ?_, ?_, g.ok, ?_, fun hdz => absurd (g.divz hdz).1 ht⟩
  · have := g.le; rw [hm'] at this; simp [hm]; omega
  · have := g.names; rw [hm'] at this
    simp only [List.length_cons, hm, List.take_succ_cons, List.map_cons, hf]
    rw [← this]
  · have := g.disk
    simp only [List.length_cons]
    rw [this, hr, afterDeletingBy_add, Nat.add_comm]
  · intro j hj
    simp only [List.length_cons] at hj
    cases j with
    | zero => simpa using hpct
    | succ j =>
      have := g.before j (by omega)
      rwa [hr, afterDeletingBy_add, Nat.add_comm] at this
  · intro hno
    obtain ⟨a, b, c⟩ := g.noMore hno
    rw [hm'] at b
    exact ⟨a, by simp [hm, b], c⟩

theorem loopBy_good (fuel : Nat) (d : Disk) (h : (d.matchingBy p).length ≤ fuel) :
    Good p d (loopBy p fuel d) := by
  -- strong induction (used at the predecessor only) so that the stopping pass is one case for every `fuel`
  induction fuel using Nat.strongRecOn generalizing d with | _ fuel ih
  cases hs : d.stepBy p with
  | stop r => rw [loopBy_stop p fuel d r hs]; exact good_stop p d r hs
  | delete n =>
    obtain ⟨_, _, ⟨f, rest, hm, _⟩, hr⟩ := stepBy_delete p d n hs
    rw [hm] at h
    cases fuel with
    | zero => exact absurd h (Nat.not_succ_le_zero _)
    | succ fuel =>
      rw [loopBy_delete p fuel d n hs]
      refine good_delete p d n _ hs (ih fuel (Nat.lt_succ_self _) _ ?_)
      rw [hr, matchingBy_afterDeletingBy, hm]
      exact Nat.le_of_succ_le_succ h

theorem deleteExcessBy_good (d : Disk) : Good p d (deleteExcessBy p d) :=
  loopBy_good p _ d (matchingBy_length_le p d)

theorem result_divz_iff (d : Disk) : (deleteExcessBy p d).result = .divideByZero ↔ d.total = 0 := by
  have g := deleteExcessBy_good p d
  constructor
  · intro h; exact (g.divz h).1
  · intro h
    cases hr : (deleteExcessBy p d).result with
    | ok => exact absurd h (g.ok hr).1
    | noMoreRecordings => exact absurd h (g.noMore hr).1
    | divideByZero => rfl

theorem result_ok_iff (d : Disk) :
    (deleteExcessBy p d).result = .ok ↔
      ∃ j, j ≤ (d.matchingBy p).length ∧ 30 < (d.afterDeletingBy p j).percentLeft := by
  have g := deleteExcessBy_good p d
  constructor
  · intro h
    refine ⟨_, g.le, ?_⟩
    rw [← g.disk]; exact (g.ok h).2
  · rintro ⟨j, hj, hpct⟩
    cases hr : (deleteExcessBy p d).result with
    | ok => rfl
    | noMoreRecordings =>
      obtain ⟨_, b, c⟩ := g.noMore hr
      rw [g.disk, b] at c
      have := percentLeft_afterDeletingBy_mono p d j _ hj
      omega
    | divideByZero =>
      have h0 := (g.divz hr).1
      have : (d.afterDeletingBy p j).percentLeft = 0 := percentLeft_total_zero _ h0
      omega

theorem result_noMore_iff (d : Disk) :
    (deleteExcessBy p d).result = .noMoreRecordings ↔
      d.total ≠ 0 ∧ (d.afterDeletingBy p (d.matchingBy p).length).percentLeft ≤ 30 := by
  have g := deleteExcessBy_good p d
  constructor
  · intro h
    obtain ⟨a, b, c⟩ := g.noMore h
    rw [g.disk, b] at c
    exact ⟨a, c⟩
  · rintro ⟨ht, hpct⟩
    cases hr : (deleteExcessBy p d).result with
    | noMoreRecordings => rfl
    | ok =>
      have := (g.ok hr).2
      rw [g.disk] at this
      have := percentLeft_afterDeletingBy_mono p d _ _ g.le
      omega
    | divideByZero => exact absurd (g.divz hr).1 ht

/-- the run from an intermediate disk is the rest of the run: a run with a deletion left to do starts with a pass
that deletes, and goes on from the disk without the oldest accepted file -/
theorem deleteExcessBy_from (d : Disk) (j : Nat) (hj : j ≤ (deleteExcessBy p d).deleted.length) :
    deleteExcessBy p (d.afterDeletingBy p j) =
      { deleteExcessBy p d with deleted := (deleteExcessBy p d).deleted.drop j } := by
  induction j generalizing d with
  | zero => simp
  | succ j ih =>
    rw [deleteExcessBy_equation p d] at hj ⊢
    cases hs : d.stepBy p with
    | stop r => rw [hs] at hj; exact absurd hj (by simp)
    | delete n =>
      rw [hs] at hj
      simp only [(stepBy_delete p d n hs).2.2.2, List.length_cons, Nat.add_le_add_iff_right,
        List.drop_succ_cons] at hj ⊢
      rw [Nat.add_comm, ← afterDeletingBy_add, ih _ hj]

/-- does `s` contain `lit` as a contiguous block? -/
def containsBlock (lit : List Char) : List Char → Bool
  | [] => lit.isPrefixOf []
  | c :: cs => lit.isPrefixOf (c :: cs) || containsBlock lit cs

theorem containsBlock_iff (lit s : List Char) : containsBlock lit s = true ↔ lit <:+: s := by
  induction s with
  | nil => simp [containsBlock, List.isPrefixOf_iff_prefix]
  | cons c cs ih =>
    simp only [containsBlock, Bool.or_eq_true, ih, List.isPrefixOf_iff_prefix, List.infix_cons_iff]

/-- the name contains `.cptv` — evaluable by `decide`, unlike `matchesGlob` -/
def hasCptv (n : String) : Bool := containsBlock ".cptv".toList n.toList

theorem percent_gt_30_iff (d : Disk) (h : d.total ≠ 0) :
    30 < d.percentLeft ↔ 31 * d.total ≤ d.avail * 100 := by
  simp only [Disk.percentLeft]
  exact Nat.le_div_iff_mul_le (by omega)

end TR.Excess
