import TR.HandoffRoll
import Proofs.C18Handoff

/-!
# C18 (roll-over part) — lemmas

Core library only.

* `step_sim` / `erase_reach`: erasing the file boundaries maps every step of `TR.HandoffRoll` to a step
  of `TR.Handoff` or to a stutter (`wRoll`), hence every run to a run; `step_lift` is the converse
  (every step of the one-file system from an erased state is the image of a step).
* `hinv_erase`, `done_closed`: the one-file invariant `TR.C18.HInv` holds of the erased state, and all
  rolled-over files are closed.
* `step_files`, `step_closed_fixed`, `reach_closed_fixed`: how the list of files can change.
-/
namespace TR.C18Roll
open TR.Handoff (Buf RPhase WPhase)
open TR.HandoffRoll

theorem files_dropLast (s : St) : (files s).dropLast = s.done := by
  simp only [files, List.dropLast_concat]

theorem files_getLast? (s : St) : (files s).getLast? = some s.cur := by
  simp only [files, List.getLast?_concat]

theorem allOut_eq (s : St) : allOut s = s.done.flatMap (·.frames) ++ s.cur.frames := by
  simp only [allOut, files, List.flatMap_append, List.flatMap_cons, List.flatMap_nil,
    List.append_nil]

theorem allOut_write (s : St) (c : List Nat) (w : WPhase) :
    allOut { s with cur := { s.cur with frames := s.cur.frames ++ [c] }, writer := w } =
      allOut s ++ [c] := by
  simp only [allOut_eq, List.append_assoc]

theorem allOut_roll (s : St) :
    allOut { s with done := s.done ++ [{ s.cur with closed := true }], cur := ⟨[], false⟩ } =
      allOut s := by
  simp only [allOut_eq, List.flatMap_append, List.flatMap_cons, List.flatMap_nil, List.append_nil]

theorem allOut_close (s : St) (w : WPhase) :
    allOut { s with writer := w, cur := { s.cur with closed := true } } = allOut s := by
  simp only [allOut_eq]

/-- frames only go into an open file: while the writer has not returned, the current file is open -/
theorem cur_open {s : St} (hcur : s.cur.closed = true → s.writer = .done) (hw : s.writer ≠ .done) :
    s.cur.closed = false :=
  Bool.eq_false_iff.mpr (mt hcur hw)

/-- each step of the roll-over system is, on the erased state, a step of `TR.Handoff` or leaves the
erased state unchanged (`wRoll`, where the current file is open because the writer is idle) -/
theorem step_sim {s t : St} (h : Step s t) (hcur : s.cur.closed = true → s.writer = .done) :
    TR.Handoff.Step (erase s) (erase t) ∨ erase t = erase s := by
  cases h with
  | rTake b rest h1 h2 => exact .inl (TR.Handoff.Step.rTake (erase s) b rest h1 h2)
  | rFill b f more h1 h2 => exact .inl (TR.Handoff.Step.rFill (erase s) b f more h1 h2)
  | rEOF b h1 h2 => exact .inl (TR.Handoff.Step.rEOF (erase s) b h1 h2)
  | rSend b h1 h2 => exact .inl (TR.Handoff.Step.rSend (erase s) b h1 h2)
  | wRecv b rest h1 h2 => exact .inl (TR.Handoff.Step.wRecv (erase s) b rest h1 h2)
  | wRoll h1 =>
    right
    simp only [erase, allOut_roll, cur_open hcur (by rw [h1]; exact WPhase.noConfusion)]
  | wClose h1 h2 h3 =>
    left
    have e : erase { s with writer := .done, cur := { s.cur with closed := true } } =
        { erase s with writer := .done, fileClosed := true } := by
      simp only [erase, allOut_close]
    rw [e]
    exact TR.Handoff.Step.wClose (erase s) h1 h2 h3
  | wWrite b h1 =>
    left
    have e : erase { s with cur := { s.cur with frames := s.cur.frames ++ [b.content] },
                            writer := .written b } =
        { erase s with out := (erase s).out ++ [b.content], writer := .written b } := by
      simp only [erase, allOut_write]
    rw [e]
    exact TR.Handoff.Step.wWrite (erase s) b h1
  | wReturn b h1 h2 => exact .inl (TR.Handoff.Step.wReturn (erase s) b h1 h2)

theorem erase_init (cap : Nat) (input : List (List Nat)) :
    erase (init cap input) = TR.Handoff.init cap input := rfl

/-- every run of the roll-over system is, with the file boundaries erased, a run of `TR.Handoff` -/
theorem erase_reach {cap : Nat} {input : List (List Nat)} {s : St}
    (hr : Reach (init cap input) s) :
    TR.Handoff.Reach (TR.Handoff.init cap input) (erase s) := by
  induction hr with
  | refl => exact .refl
  | @step s t _ hs ih =>
    rcases step_sim hs (TR.C18.hinv_reach ih).fileClosed_iff.mp with h | h
    · exact .step ih h
    · rw [h]; exact ih

theorem hinv_erase {cap : Nat} {input : List (List Nat)} {s : St}
    (hr : Reach (init cap input) s) : TR.C18.HInv cap input (erase s) :=
  TR.C18.hinv_reach (erase_reach hr)

theorem cur_closed_iff {cap : Nat} {input : List (List Nat)} {s : St}
    (hr : Reach (init cap input) s) : s.cur.closed = true ↔ s.writer = .done :=
  (hinv_erase hr).fileClosed_iff

theorem step_lift {s : St} {u : TR.Handoff.St} (h : TR.Handoff.Step (erase s) u) :
    ∃ t, Step s t ∧ erase t = u := by
  cases h with
  | rTake b rest h1 h2 => exact ⟨_, Step.rTake s b rest h1 h2, rfl⟩
  | rFill b f more h1 h2 => exact ⟨_, Step.rFill s b f more h1 h2, rfl⟩
  | rEOF b h1 h2 => exact ⟨_, Step.rEOF s b h1 h2, rfl⟩
  | rSend b h1 h2 => exact ⟨_, Step.rSend s b h1 h2, rfl⟩
  | wRecv b rest h1 h2 => exact ⟨_, Step.wRecv s b rest h1 h2, rfl⟩
  | wClose h1 h2 h3 =>
    refine ⟨_, Step.wClose s h1 h2 h3, ?_⟩
    simp only [erase, allOut_close]
  | wWrite b h1 =>
    refine ⟨_, Step.wWrite s b h1, ?_⟩
    simp only [erase, allOut_write]
  | wReturn b h1 h2 => exact ⟨_, Step.wReturn s b h1 h2, rfl⟩

/-- how one step changes the list of files -/
inductive FilesChange (s t : St) : Prop
  /-- nothing changes (reader steps, `wRecv`, `wReturn`) -/
  | same : files t = files s → FilesChange s t
  /-- a frame is appended to the LAST file (`wWrite`) -/
  | append (c : List Nat) :
      files t = (files s).dropLast ++ [{ s.cur with frames := s.cur.frames ++ [c] }] →
      FilesChange s t
  /-- the last file is closed and a fresh empty open file is added after it (`wRoll`) -/
  | roll : files t = (files s).dropLast ++ [{ s.cur with closed := true }, ⟨[], false⟩] →
      FilesChange s t
  /-- the last file is closed (`wClose`) -/
  | close : files t = (files s).dropLast ++ [{ s.cur with closed := true }] → FilesChange s t

theorem step_files {s t : St} (h : Step s t) : FilesChange s t := by
  cases h with
  | wRoll h1 =>
    apply FilesChange.roll
    simp only [files, List.dropLast_concat, List.append_assoc, List.cons_append, List.nil_append]
  | wClose h1 h2 h3 =>
    apply FilesChange.close
    simp only [files, List.dropLast_concat]
  | wWrite b h1 =>
    apply FilesChange.append b.content
    simp only [files, List.dropLast_concat]
  | _ => exact .same rfl

theorem step_done {s t : St} (h : Step s t) :
    t.done = s.done ∨ (s.writer = .idle ∧ t.done = s.done ++ [{ s.cur with closed := true }]) := by
  cases h with
  | wRoll h1 => exact .inr ⟨h1, rfl⟩
  | _ => exact .inl rfl

theorem step_done_closed {s t : St} (h : Step s t) (hd : ∀ f ∈ s.done, f.closed = true) :
    ∀ f ∈ t.done, f.closed = true := by
  rcases step_done h with e | ⟨_, e⟩
  · rw [e]; exact hd
  · rw [e]
    intro f hf
    rcases List.mem_append.mp hf with hf | hf
    · exact hd f hf
    · rw [List.mem_singleton.mp hf]

theorem done_closed {cap : Nat} {input : List (List Nat)} {s : St}
    (hr : Reach (init cap input) s) : ∀ f ∈ s.done, f.closed = true := by
  induction hr with
  | refl => intro f hf; cases hf
  | step _ hs ih => exact step_done_closed hs ih

/-- an entry with `closed = true` in a list ending in an OPEN file lies before that last file, so it
survives any replacement of the tail -/
theorem getElem?_closed_of_open_last (d : List FileRec) (c : FileRec) (tl : List FileRec)
    (hc : c.closed = false) (i : Nat) (f : FileRec) (hi : (d ++ [c])[i]? = some f)
    (hf : f.closed = true) : (d ++ tl)[i]? = some f := by
  rcases Nat.lt_or_ge i d.length with hlt | hle
  · rwa [List.getElem?_append_left hlt] at hi ⊢
  · rw [List.getElem?_append_right hle] at hi
    rw [List.mem_singleton.1 (List.mem_of_getElem? hi), hc] at hf
    cases hf

theorem step_closed_fixed {s t : St} (h : Step s t)
    (hcur : s.cur.closed = true → s.writer = .done) (i : Nat) (f : FileRec)
    (hi : (files s)[i]? = some f) (hf : f.closed = true) : (files t)[i]? = some f := by
  have hopen : s.writer ≠ .done → s.cur.closed = false := cur_open hcur
  cases h with
  | wRoll h1 =>
    have ho := hopen (by rw [h1]; exact WPhase.noConfusion)
    have := getElem?_closed_of_open_last s.done s.cur
      [{ s.cur with closed := true }, ⟨[], false⟩] ho i f hi hf
    simp only [files, List.append_assoc, List.cons_append, List.nil_append]
    exact this
  | wClose h1 h2 h3 =>
    have ho := hopen (by rw [h1]; exact WPhase.noConfusion)
    exact getElem?_closed_of_open_last s.done s.cur [{ s.cur with closed := true }] ho i f hi hf
  | wWrite b h1 =>
    have ho := hopen (by rw [h1]; exact WPhase.noConfusion)
    exact getElem?_closed_of_open_last s.done s.cur
      [{ s.cur with frames := s.cur.frames ++ [b.content] }] ho i f hi hf
  | _ => exact hi

theorem reach_trans {s0 s t : St} (h1 : Reach s0 s) (h2 : Reach s t) : Reach s0 t := by
  induction h2 with
  | refl => exact h1
  | step _ hs ih => exact .step ih hs

theorem reach_closed_fixed {cap : Nat} {input : List (List Nat)} {s t : St}
    (hr : Reach (init cap input) s) (hst : Reach s t) (i : Nat) (f : FileRec)
    (hi : (files s)[i]? = some f) (hf : f.closed = true) : (files t)[i]? = some f := by
  induction hst with
  | refl => exact hi
  | @step u v hu hs ih =>
    exact step_closed_fixed hs (cur_closed_iff (reach_trans hr hu)).mp i f ih hf

/-- the number of files never decreases -/
theorem step_files_length {s t : St} (h : Step s t) : (files s).length ≤ (files t).length := by
  rcases step_done h with e | ⟨_, e⟩ <;>
    simp only [files, e, List.length_append, List.length_cons, List.length_nil] <;> omega

end TR.C18Roll
