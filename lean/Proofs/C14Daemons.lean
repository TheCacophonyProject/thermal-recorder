import TR.Leptond
import Proofs.SocketC14
/-!
# Helper lemmas for C14Daemons (camera daemon ⇄ recorder over the frame socket)

About the model `TR.Leptond` and its relation to `TR.Socket.encode`; the property statements are
in `Props.C14Daemons`.
-/
namespace TR.Leptond
open TR.Socket

theorem sent_nil : sent [] = [] := rfl

theorem sent_cons (ev : CamEv) (evs : List CamEv) : sent (ev :: evs) = ev.item :: sent evs := rfl

theorem sent_append (a b : List CamEv) : sent (a ++ b) = sent a ++ sent b := by
  simp [sent]

/-- one item per `NextFrame` call -/
theorem sent_length (evs : List CamEv) : (sent evs).length = evs.length := by
  simp [sent]

theorem sent_take (evs : List CamEv) (k : Nat) : sent (evs.take k) = (sent evs).take k := by
  simp [sent, List.map_take]

theorem sent_take_prefix (evs : List CamEv) (k : Nat) : sent (evs.take k) <+: sent evs := by
  rw [sent_take]; exact List.take_prefix _ _

theorem mem_sent {i : Item} {evs : List CamEv} (h : i ∈ sent evs) : ∃ ev ∈ evs, ev.item = i := by
  simpa [sent] using h

/-- every `clear` on the wire is a camera restart and vice versa -/
theorem count_clear_sent (evs : List CamEv) :
    (sent evs).count Item.clear
      = evs.countP CamEv.isTimeout + evs.countP CamEv.isResetRequested := by
  induction evs with
  | nil => rfl
  | cons ev evs ih =>
    rw [sent_cons, List.count_cons, List.countP_cons, List.countP_cons, ih]
    cases ev <;> simp [CamEv.item, CamEv.isTimeout, CamEv.isResetRequested] <;> omega

/-- the frames on the wire are the delivered frames, in order -/
theorem frames_sent (evs : List CamEv) :
    (sent evs).filterMap itemFrame? = evs.filterMap CamEv.delivered? := by
  rw [sent, List.filterMap_map]
  congr 1
  funext ev
  cases ev <;> rfl

theorem run_eq (s : DState) (evs : List CamEv) : run s evs = pending s ++ encode (sent evs) := by
  induction evs generalizing s with
  | nil => simp [run, sent_nil, encode_nil]
  | cons ev evs ih =>
    rw [run, ih, sent_cons, encode_cons]
    cases ev <;> simp [step, cameraIter, CamEv.item, encodeItem, pending]

/-- started inside `runCamera` (no restart under way), the loop writes the body of `stream` -/
theorem run_inCamera (evs : List CamEv) : run .inCamera evs = encode (sent evs) := by
  rw [run_eq]; rfl

/-- the operational `runMain` writes exactly `stream` -/
theorem run_eq_stream (lines : List (List Nat)) (evs : List CamEv) :
    runMain lines evs = stream lines evs := by
  rw [runMain, run_inCamera]; rfl

/-- the bytes the operational loop writes for `a ++ b` are those for `a` followed by the items of `b` -/
theorem run_append (s : DState) (a b : List CamEv) :
    run s (a ++ b) = pending s ++ encode (sent a) ++ encode (sent b) := by
  rw [run_eq, sent_append]; simp [encode, List.append_assoc]

theorem encode_append (a b : List Item) : encode (a ++ b) = encode a ++ encode b := by
  simp [encode]

theorem encode_take_prefix (items : List Item) (k : Nat) :
    encode (items.take k) <+: encode items := by
  have h : encode items = encode (items.take k) ++ encode (items.drop k) := by
    rw [← encode_append, List.take_append_drop]
  rw [h]; exact List.prefix_append _ _

/-- any prefix of an encoded item list is a whole number of items, followed by nothing or by a non-empty proper
part of the next item -/
theorem prefix_encode_cases (items : List Item) (q : List Nat) (h : q <+: encode items) :
    ∃ k, k ≤ items.length ∧ (q = encode (items.take k) ∨
      ∃ (hk : k < items.length) (part : List Nat), q = encode (items.take k) ++ part ∧
        part <+: encodeItem items[k] ∧ part ≠ [] ∧ part ≠ encodeItem items[k]) := by
  induction items generalizing q with
  | nil => exact ⟨0, Nat.le_refl _, .inl (List.prefix_nil.1 h)⟩
  | cons i is ih =>
    rw [encode_cons] at h
    rcases prefix_append_cases h with h1 | ⟨q', rfl, hq'⟩
    · by_cases h0 : q = []
      · exact ⟨0, Nat.zero_le _, .inl h0⟩
      · by_cases hfull : q = encodeItem i
        · refine ⟨1, Nat.le_add_left 1 _, .inl ?_⟩
          rw [hfull, List.take_succ_cons, List.take_zero, encode_cons, encode_nil, List.append_nil]
        · exact ⟨0, Nat.zero_le _, .inr ⟨Nat.zero_lt_succ _, q, rfl, h1, h0, hfull⟩⟩
    · obtain ⟨k, hk, hcase⟩ := ih q' hq'
      refine ⟨k + 1, Nat.succ_le_succ hk, ?_⟩
      simp only [List.take_succ_cons, encode_cons, List.append_assoc, List.getElem_cons_succ]
      rcases hcase with rfl | ⟨hk', part, rfl, hp⟩
      · exact .inl rfl
      · exact .inr ⟨Nat.succ_lt_succ hk', part, rfl, hp⟩

/-- every way to cut the daemon's stream: inside the header part, right after the items of the first `k` events,
or inside the item of event `k` -/
theorem prefix_stream_cases (lines : List (List Nat)) (evs : List CamEv) (pre : List Nat)
    (h : pre <+: stream lines evs) :
    (pre <+: sendCameraSpecs lines ∧ pre ≠ sendCameraSpecs lines) ∨
    ∃ k, k ≤ evs.length ∧ (pre = stream lines (evs.take k) ∨
      ∃ (hk : k < evs.length) (part : List Nat), pre = stream lines (evs.take k) ++ part ∧
        part <+: encodeItem evs[k].item ∧ part ≠ [] ∧ part ≠ encodeItem evs[k].item) := by
  rcases prefix_append_cases h with h1 | ⟨q, rfl, hq⟩
  · by_cases hfull : pre = sendCameraSpecs lines
    · exact .inr ⟨0, Nat.zero_le _, .inl (by rw [hfull]; exact (List.append_nil _).symm)⟩
    · exact .inl ⟨h1, hfull⟩
  · obtain ⟨k, hk, hcase⟩ := prefix_encode_cases _ q hq
    rw [sent_length] at hk
    refine .inr ⟨k, hk, ?_⟩
    rcases hcase with rfl | ⟨hk', part, rfl, hp⟩
    · exact .inl (by rw [stream, sent_take])
    · have e : (sent evs)[k] = (evs[k]'(sent_length evs ▸ hk')).item := List.getElem_map ..
      rw [e] at hp
      exact .inr ⟨sent_length evs ▸ hk', part, by rw [stream, sent_take, ← List.append_assoc], hp⟩

end TR.Leptond
