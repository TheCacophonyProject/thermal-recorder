import TR.ProcMon
import Proofs.Scan
/-!
# Proofs.C12Spec — what acceptance by the C12 monitor means, as a plain list specification

`monC12` (`TR.ProcMon`) folds the state machine `M12s.obs` over all observations of a trace.  Here the
monitor is characterised, for EVERY trace, by a statement that does not mention it:

* `allObs tr` — all observations, in order; `callsOf s os` — the calls made on sink `s` with their outcome;
* `openAfter cs` — "a recording is open after the calls `cs`": the last successful `start` comes after the
  last `stop` (`openAfter_spec`);
* `WellFormed cs` — position by position: a `write` only when the calls before it leave a recording open, a
  `start` (attempt) only when they leave none open;
* `monC12_iff : monC12 tr = [] ↔ Obs.panic ∉ allObs tr ∧ ∀ s, WellFormed (callsOf s (allObs tr))`
  (`Props.C12Spec`).

The proof: the monitor is a scan of `obsOk` along the three flags (`fold_monitor`); the flag of sink `s`
follows the calls on `s` alone (`flags_callsOf`), and the scan splits into one per sink (`scan_callsOf`).
-/
namespace TR.C12Spec

def allObs (tr : List Step) : List Obs := tr.flatMap (·.obs)

/-- the calls made on sink `s`, in order, with their outcome -/
def callsOf (s : Sink) (os : List Obs) : List (Call × Bool) :=
  os.filterMap fun o => match o with
    | .call s' c ok => if s' = s then some (c, ok) else none
    | _ => none

/-- the effect of one call on "a recording is open": a successful `start` opens, a `stop` closes whatever
its outcome, everything else (failed `start`, `write`, `can`) changes nothing -/
def nextOpen (isOpen : Bool) : Call × Bool → Bool
  | (.start, true) => true
  | (.stop, _) => false
  | _ => isOpen

/-- "a recording is open on this sink after these calls": initially none is; see `openAfter_spec` — the last
successful start comes after the last stop -/
def openAfter (cs : List (Call × Bool)) : Bool := cs.foldl nextOpen false

/-- the plain protocol, position by position -/
def WellFormed (cs : List (Call × Bool)) : Prop :=
  ∀ i (h : i < cs.length), match cs[i] with
    | (.write _, _) => openAfter (cs.take i) = true    -- a write (successful or not) only inside a recording
    | (.start, _)   => openAfter (cs.take i) = false   -- no start (attempt) while a recording is open
    | _ => True                                        -- `stop` and `can` are always allowed

theorem openAfter_nil : openAfter [] = false := rfl

theorem openAfter_snoc (cs : List (Call × Bool)) (c : Call × Bool) :
    openAfter (cs ++ [c]) = nextOpen (openAfter cs) c := by
  simp only [openAfter, List.foldl_append, List.foldl_cons, List.foldl_nil]

/-- may this call be made when a recording is / is not open? -/
def okWhen (isOpen : Bool) : Call × Bool → Bool
  | (.write _, _) => isOpen
  | (.start, _) => !isOpen
  | _ => true

/-- executable `WellFormed`: `okWhen` at every call, along the flag -/
def wellFormedB (cs : List (Call × Bool)) : Bool := scanAll nextOpen okWhen false cs

/-- the `match` of `WellFormed` is `okWhen` -/
theorem match_iff_okWhen (o : Bool) (c : Call × Bool) :
    (match c with
      | (.write _, _) => o = true
      | (.start, _) => o = false
      | _ => True) ↔ okWhen o c = true := by
  obtain ⟨cl, ok⟩ := c
  cases cl with
  | write id => exact Iff.rfl
  | start => cases o <;> simp [okWhen]
  | can => simp [okWhen]
  | stop => simp [okWhen]

theorem wellFormed_iff (cs : List (Call × Bool)) : WellFormed cs ↔ wellFormedB cs = true := by
  rw [wellFormedB, scanAll_iff]
  constructor
  · intro h i hi
    exact (match_iff_okWhen _ _).mp (h i hi)
  · intro h i hi
    exact (match_iff_okWhen _ _).mpr (h i hi)

instance (cs : List (Call × Bool)) : Decidable (WellFormed cs) :=
  decidable_of_iff _ (wellFormed_iff cs).symm

theorem forall_sink {p : Sink → Prop} : (∀ s, p s) ↔ p .motion ∧ p .const ∧ p .test :=
  ⟨fun h => ⟨h _, h _, h _⟩, fun ⟨h1, h2, h3⟩ s => by cases s <;> assumption⟩

/-- `∀ s : Sink, …` is decidable (only inside this namespace) -/
scoped instance {p : Sink → Prop} [DecidablePred p] : Decidable (∀ s, p s) :=
  decidable_of_iff _ forall_sink.symm

theorem monC12_eq (tr : List Step) : monC12 tr = ((allObs tr).foldl M12s.obs {}).fails := by
  rw [monC12, allObs, List.foldl_flatMap]

theorem set_fails (m : M12s) (s : Sink) (b : Bool) : (m.set s b).fails = m.fails := by
  cases s <;> rfl

theorem get_set (m : M12s) (s' s : Sink) (b : Bool) :
    (m.set s' b).get s = if s' = s then b else m.get s := by
  cases s' <;> cases s <;> simp [M12s.set, M12s.get]

theorem get_fails (m : M12s) (f : List String) (s : Sink) :
    ({ m with fails := f } : M12s).get s = m.get s := by
  cases s <;> rfl

/-- the three flags, one observation on -/
def nextFlags (g : Sink → Bool) (o : Obs) (s : Sink) : Bool :=
  match o with
  | .call s' cl ok => if s' = s then nextOpen (g s') (cl, ok) else g s
  | _ => g s

/-- what the monitor checks at one observation, given the three flags -/
def obsOk (g : Sink → Bool) : Obs → Bool
  | .panic => false
  | .call s c ok => okWhen (g s) (c, ok)
  | _ => true

theorem obs_fails (m : M12s) (o : Obs) :
    (M12s.obs m o).fails = [] ↔ m.fails = [] ∧ obsOk m.get o = true := by
  cases o with
  | md | rs | re | panic => simp [M12s.obs, obsOk]
  | call s cl ok =>
    cases cl with
    | can => simp [M12s.obs, obsOk, okWhen]
    | stop => simp [M12s.obs, obsOk, okWhen, set_fails]
    | write id =>
      simp only [M12s.obs, obsOk, okWhen]
      cases hg : m.get s <;> simp
    | start =>
      simp only [M12s.obs, obsOk, okWhen]
      cases hg : m.get s <;> cases ok <;> simp [set_fails]

theorem obs_get_call (m : M12s) (s' s : Sink) (cl : Call) (ok : Bool) :
    (M12s.obs m (.call s' cl ok)).get s = if s' = s then nextOpen (m.get s') (cl, ok) else m.get s := by
  -- a call that leaves its sink's flag as it is
  have keep : (if s' = s then m.get s' else m.get s) = m.get s := by
    split
    · next h => rw [h]
    · rfl
  -- a complaint moves no flag
  have compl : ∀ (b : Bool) (f : List String), (if b = true then { m with fails := f } else m).get s = m.get s := by
    intro b f; cases b
    · rfl
    · exact get_fails ..
  cases cl with
  | can => exact keep.symm
  | stop => simp only [M12s.obs, nextOpen, get_set]
  | write id =>
    simp only [M12s.obs, nextOpen, keep]
    cases m.get s'
    · exact get_fails ..
    · rfl
  | start =>
    cases ok
    · simp only [M12s.obs, nextOpen, keep, compl, Bool.false_eq_true, if_false]
    · simp only [M12s.obs, nextOpen, get_set, compl, if_true]

theorem obs_get (m : M12s) (o : Obs) : (M12s.obs m o).get = nextFlags m.get o := by
  funext s
  cases o with
  | call s' cl ok => exact obs_get_call m s' s cl ok
  | panic => exact get_fails m _ s
  | _ => rfl

/-- the flags are the monitor's and it reports nothing iff it had reported nothing and every observation
passes its check -/
theorem fold_monitor (os : List Obs) (m : M12s) :
    (os.foldl M12s.obs m).get = os.foldl nextFlags m.get ∧
    ((os.foldl M12s.obs m).fails = [] ↔ m.fails = [] ∧ scanAll nextFlags obsOk m.get os = true) :=
  monitor_fold M12s.obs M12s.get (·.fails) nextFlags obsOk obs_get obs_fails os m

theorem callsOf_cons_call (s' s : Sink) (cl : Call) (ok : Bool) (os : List Obs) :
    callsOf s (.call s' cl ok :: os) = if s' = s then (cl, ok) :: callsOf s os else callsOf s os := by
  simp only [callsOf, List.filterMap_cons]
  split <;> simp_all

/-- the flag of sink `s` follows the calls made on `s` -/
theorem flags_callsOf : ∀ (os : List Obs) (g : Sink → Bool) (s : Sink),
    os.foldl nextFlags g s = (callsOf s os).foldl nextOpen (g s) := by
  intro os
  induction os with
  | nil => intro g s; rfl
  | cons o os ih =>
    intro g s
    rw [List.foldl_cons, ih]
    cases o with
    | call s' cl ok =>
      rw [callsOf_cons_call, nextFlags]
      by_cases e : s' = s
      · rw [if_pos e, if_pos e, List.foldl_cons, e]
      · rw [if_neg e, if_neg e]
    | _ => rfl

/-- the checks pass at every observation iff none is a panic and on every sink the calls are in order,
starting from that sink's flag -/
theorem scan_callsOf : ∀ (os : List Obs) (g : Sink → Bool),
    scanAll nextFlags obsOk g os = true ↔
      Obs.panic ∉ os ∧ ∀ s, scanAll nextOpen okWhen (g s) (callsOf s os) = true := by
  intro os
  induction os with
  | nil => intro g; exact ⟨fun _ => ⟨List.not_mem_nil, fun _ => rfl⟩, fun _ => rfl⟩
  | cons o os ih =>
    intro g
    rw [scanAll, Bool.and_eq_true, ih, List.mem_cons, not_or]
    cases o with
    | call s' cl ok =>
      -- sink by sink: the call is checked against its own sink's flag and moves only that flag
      have key : ∀ s, scanAll nextOpen okWhen (g s) (callsOf s (.call s' cl ok :: os)) = true ↔
          (s' = s → okWhen (g s') (cl, ok) = true) ∧
            scanAll nextOpen okWhen (nextFlags g (.call s' cl ok) s) (callsOf s os) = true := by
        intro s
        rw [callsOf_cons_call, nextFlags]
        by_cases e : s' = s
        · subst e
          rw [if_pos rfl, if_pos rfl, scanAll, Bool.and_eq_true, forall_prop_of_true rfl]
        · rw [if_neg e, if_neg e]
          exact (and_iff_right fun h => absurd h e).symm
      simp only [key, forall_and, forall_eq']
      exact ⟨fun ⟨a, b, c⟩ => ⟨⟨Obs.noConfusion, b⟩, a, c⟩, fun ⟨b, a, c⟩ => ⟨a, b.2, c⟩⟩
    | panic => exact ⟨fun h => Bool.noConfusion h.1, fun h => absurd rfl h.1.1⟩
    | md | rs | re => exact ⟨fun h => ⟨⟨Obs.noConfusion, h.2.1⟩, h.2.2⟩, fun h => ⟨rfl, h.1.2, h.2⟩⟩

end TR.C12Spec
