import TR.Ring
/-!
# Proofs.Ring — ghost-state refinement of the FrameLoop model

Ghost state: `n` = number of `Move`s since creation / `Reset` (= global index of the current
frame), `mark` = global index of the frame last marked with `SetAsOldest`, `vals` = content
of every global index.  `RInv` relates ring and ghost; it holds initially, is preserved by
every operation, and under it `GetHistory`, `Oldest` and `CopyRecent` are characterised.

Global index `k` lives in slot `k % size`; `omega` does not see through `%` with a variable modulus,
so the slot arithmetic is proved by rewriting.
-/
namespace TR

theorem add_mod_wrap (a j s : Nat) (hj : j < s) :
    (a + j) % s = if a % s + j < s then a % s + j else a % s + j - s := by
  have := Nat.mod_lt a (Nat.zero_lt_of_lt hj)
  rw [Nat.add_mod, Nat.mod_eq_of_lt hj]
  split
  · exact Nat.mod_eq_of_lt ‹_›
  · rw [Nat.mod_eq_sub_mod (by omega)]; exact Nat.mod_eq_of_lt (by omega)

theorem succ_mod (n s : Nat) (hs : 0 < s) :
    (n + 1) % s = if n % s + 1 = s then 0 else n % s + 1 := by
  have := Nat.mod_lt n hs
  rw [← Nat.mod_add_mod]
  split
  · next h => rw [h, Nat.mod_self]
  · exact Nat.mod_eq_of_lt (by omega)

theorem mod_window_inj (k n s : Nat) (h1 : k ≤ n) (h2 : n < k + s) (h : k % s = n % s) : k = n := by
  have h0 : (n - k) % s = 0 := Nat.sub_mod_eq_zero_of_mod_eq h.symm
  have h3 : (n - k) % s = n - k := Nat.mod_eq_of_lt (by omega)
  omega

theorem slot_dist (k d s : Nat) (hd : d < s) : ((k + d) % s + s - k % s) % s = d := by
  have := Nat.mod_lt k (Nat.zero_lt_of_lt hd)
  rw [add_mod_wrap k d s hd]
  split
  · rw [Nat.add_assoc, Nat.add_sub_cancel_left, Nat.add_mod_right, Nat.mod_eq_of_lt hd]
  · rw [Nat.sub_add_cancel (by omega), Nat.add_sub_cancel_left, Nat.mod_eq_of_lt hd]

theorem prev_slot (n size : Nat) (hs : 1 ≤ size) (hn : 1 ≤ n) :
    (n % size + size - 1) % size = (n - 1) % size := by
  rw [Nat.add_sub_assoc hs, Nat.mod_add_mod, ← Nat.add_sub_assoc hs, Nat.sub_add_comm hn,
    Nat.add_mod_right]

theorem range'_mod (a s : Nat) :
    (List.range' a s).map (· % s) = (List.range s).drop (a % s) ++ (List.range s).take (a % s) := by
  rcases Nat.eq_zero_or_pos s with rfl | hs
  · simp
  have := Nat.mod_lt a hs
  apply List.ext_getElem
  · simp only [List.length_map, List.length_range', List.length_append, List.length_drop,
      List.length_take, List.length_range]; omega
  · intro j h1 _
    simp only [List.length_map, List.length_range'] at h1
    simp only [List.getElem_map, List.getElem_range', Nat.one_mul, add_mod_wrap a j s h1]
    by_cases hj : a % s + j < s
    · rw [if_pos hj, List.getElem_append_left (by simp only [List.length_drop, List.length_range]; omega)]
      simp only [List.getElem_drop, List.getElem_range]
    · rw [if_neg hj, List.getElem_append_right (by simp only [List.length_drop, List.length_range]; omega)]
      simp only [List.getElem_take, List.getElem_range, List.length_drop, List.length_range]
      omega

structure Ghost (α : Type) where
  n    : Nat
  mark : Nat
  vals : Nat → α

def RInv {α : Type} (r : Ring α) (g : Ghost α) : Prop :=
  0 < r.size ∧
  r.cur = g.n % r.size ∧
  (r.full = true ↔ r.size ≤ g.n) ∧
  g.mark ≤ g.n ∧
  (r.oldest = if g.n < g.mark + r.size then some (g.mark % r.size) else none) ∧
  (∀ k, k ≤ g.n → g.n < k + r.size → r.slots (k % r.size) = g.vals k)

namespace Ghost
variable {α : Type}
def write (g : Ghost α) (v : α) : Ghost α := { g with vals := fun k => if k = g.n then v else g.vals k }
/-- `stale` is what the slot moved onto still holds: the last clause of `RInv` is demanded at `k = n` too, the
slot not yet written, so the ghost step reads the ring (`Ghost.apply`) and `runOps` carries the pair. -/
def move (g : Ghost α) (stale : α) : Ghost α :=
  { g with n := g.n + 1, vals := fun k => if k = g.n + 1 then stale else g.vals k }
def markNow (g : Ghost α) : Ghost α := { g with mark := g.n }
end Ghost

def Ghost.reset {α : Type} (stale : α) : Ghost α := { n := 0, mark := 0, vals := fun _ => stale }

/-- first retained global index: the mark while the marked frame is still buffered, otherwise the
oldest frame the ring still holds -/
def Ghost.lo {α : Type} (g : Ghost α) (size : Nat) : Nat := max g.mark (g.n + 1 - size)

variable {α : Type}

theorem lo_of_lt {g : Ghost α} {s : Nat} (h : g.n < g.mark + s) : g.lo s = g.mark := by
  unfold Ghost.lo; omega

theorem lo_of_ge {g : Ghost α} {s : Nat} (h : ¬ g.n < g.mark + s) : g.lo s = g.n + 1 - s := by
  unfold Ghost.lo; omega

theorem lo_le_n (g : Ghost α) (size : Nat) (hm : g.mark ≤ g.n) (hs : 0 < size) :
    g.lo size ≤ g.n := by
  unfold Ghost.lo; omega

theorem n_lt_lo_add (g : Ghost α) (size : Nat) : g.n < g.lo size + size := by
  unfold Ghost.lo; omega

theorem not_full {r : Ring α} {g : Ghost α} (h : RInv r g) : r.full = false ↔ g.n < r.size := by
  rw [← Bool.not_eq_true, h.2.2.1, Nat.not_le]

theorem inv_new (size : Nat) (b : α) (h : 0 < size) :
    RInv (Ring.new size b) { n := 0, mark := 0, vals := fun _ => b } := by
  refine ⟨h, ?_, ?_, ?_, ?_, ?_⟩ <;> simp [Ring.new] <;> omega

theorem inv_write (r : Ring α) (g : Ghost α) (v : α) (h : RInv r g) :
    RInv (r.write v) (g.write v) := by
  obtain ⟨hs, hc, hf, hm, ho, hv⟩ := h
  refine ⟨hs, hc, hf, hm, ho, ?_⟩
  intro k hk1 hk2
  simp only [Ring.write, Ghost.write] at hk1 hk2 ⊢
  by_cases hkn : k = g.n
  · subst hkn; simp [hc]
  · have : k % r.size ≠ r.cur := by
      rw [hc]; intro heq; exact hkn (mod_window_inj k g.n r.size hk1 hk2 heq)
    simp [this, hkn, hv k hk1 hk2]

theorem inv_mark (r : Ring α) (g : Ghost α) (h : RInv r g) :
    RInv r.setAsOldest g.markNow := by
  obtain ⟨hs, hc, hf, hm, ho, hv⟩ := h
  refine ⟨hs, hc, hf, Nat.le_refl _, ?_, hv⟩
  simp [Ring.setAsOldest, Ghost.markNow, hc, hs]

theorem inv_move (r : Ring α) (g : Ghost α) (h : RInv r g) :
    RInv r.move (g.move (r.slots (r.next r.cur))) := by
  obtain ⟨hs, hc, hf, hm, ho, hv⟩ := h
  have hcur' : r.next r.cur = (g.n + 1) % r.size := by
    simp [Ring.next, hc, Nat.mod_add_mod]
  refine ⟨hs, ?_, ?_, ?_, ?_, ?_⟩
  · simp [Ring.move, Ghost.move, hcur']
  · -- the ring becomes full when the current index wraps to 0, i.e. when `size` divides `n + 1`
    simp only [Ring.move, Ghost.move, hcur', Bool.or_eq_true, beq_iff_eq]
    constructor
    · rintro (h1 | h1)
      · exact Nat.le_succ_of_le (hf.mp h1)
      · exact Nat.le_of_dvd (Nat.succ_pos _) (Nat.dvd_of_mod_eq_zero h1)
    · intro h1
      rcases Nat.lt_or_ge g.n r.size with h2 | h2
      · exact Or.inr (by rw [show g.n + 1 = r.size by omega, Nat.mod_self])
      · exact Or.inl (hf.mpr h2)
  · exact Nat.le_succ_of_le hm
  · -- the mark is dropped exactly when the current index reaches its slot again
    simp only [Ring.move, Ghost.move, hcur', ho]
    by_cases h1 : g.n < g.mark + r.size
    · simp only [h1, if_true]
      by_cases h2 : g.n + 1 < g.mark + r.size
      · simp only [h2, if_true]
        have : g.mark % r.size ≠ (g.n + 1) % r.size := by
          intro heq
          have := mod_window_inj g.mark (g.n + 1) r.size (by omega) h2 heq
          omega
        simp [this]
      · have h3 : g.n + 1 = g.mark + r.size := by omega
        simp [h3]
    · have h2 : ¬ g.n + 1 < g.mark + r.size := by omega
      simp [h1, h2]
  · intro k hk1 hk2
    simp only [Ring.move, Ghost.move] at hk1 hk2 ⊢
    by_cases hk : k = g.n + 1
    · subst hk; simp [hcur']
    · simp only [hk, if_false]
      exact hv k (by omega) (by omega)

theorem inv_reset (r : Ring α) (g : Ghost α) (h : RInv r g) :
    RInv r.reset (Ghost.reset (r.slots 0)) := by
  refine ⟨h.1, ?_, ?_, ?_, ?_, ?_⟩
  · simp [Ring.reset, Ghost.reset]
  · simp [Ring.reset, Ghost.reset]; exact Nat.ne_of_gt h.1
  · simp [Ghost.reset]
  · simp [Ring.reset, Ghost.reset, h.1]
  · intro k hk _
    obtain rfl : k = 0 := Nat.le_zero.mp hk
    simp [Ring.reset, Ghost.reset]

/-- `getFullHistory` is the window of the last `size` global indices (all of them while fewer exist) -/
theorem fullIdx_eq (r : Ring α) (g : Ghost α) (h : RInv r g) :
    r.fullIdx = (List.range' (g.n + 1 - r.size) (g.n + 1 - (g.n + 1 - r.size))).map (· % r.size) := by
  have hnf := not_full h
  obtain ⟨hs, hc, hf, -⟩ := h
  have hlt := Nat.mod_lt g.n hs
  unfold Ring.fullIdx
  rcases Nat.lt_or_ge (g.n + 1) r.size with hn | hn
  · -- fewer than `size` frames: no wrap yet, every index is its own slot
    have hcn : r.cur = g.n := by rw [hc]; exact Nat.mod_eq_of_lt (by omega)
    rw [if_neg (show ¬ r.cur = r.size - 1 by omega), hnf.mpr (by omega),
      if_pos (show (!false) = true from rfl), hcn,
      show g.n + 1 - r.size = 0 by omega, List.range_eq_range']
    have hid : ∀ k ∈ List.range' 0 (g.n + 1), k % r.size = id k := fun k hk =>
      Nat.mod_eq_of_lt (by have := (List.mem_range'_1.mp hk).2; omega)
    rw [Nat.sub_zero, List.map_congr_left (f := (· % r.size)) hid, List.map_id]
  · -- a full window: the rotation of `range size` that starts at slot `(n + 1) % size`
    have hrot : (g.n + 1 - r.size) % r.size = (g.n + 1) % r.size := by
      rw [← Nat.add_mod_right (g.n + 1 - r.size), Nat.sub_add_cancel hn]
    rw [show g.n + 1 - (g.n + 1 - r.size) = r.size by omega, range'_mod, hrot,
      succ_mod g.n r.size hs, ← hc]
    by_cases h1 : r.cur = r.size - 1
    · rw [if_pos h1, if_pos (show r.cur + 1 = r.size by omega)]; simp
    · have : r.full = true := hf.mpr (by
        rcases Nat.lt_or_ge g.n r.size with h2 | h2
        · rw [hc, Nat.mod_eq_of_lt h2] at h1; omega
        · exact h2)
      rw [if_neg h1, this, if_neg (show ¬ r.cur + 1 = r.size by omega)]; rfl

theorem historyIdx_eq (r : Ring α) (g : Ghost α) (h : RInv r g) :
    r.historyIdx = some ((List.range' (g.lo r.size) (g.n + 1 - g.lo r.size)).map (· % r.size)) := by
  have hfi := fullIdx_eq r g h
  obtain ⟨hs, hc, hf, hm, ho, hv⟩ := h
  unfold Ring.historyIdx
  rw [ho]
  by_cases h1 : g.n < g.mark + r.size
  · -- the marked frame is still buffered: `historyLength` is its distance to the current frame
    have hl : r.histLen (g.mark % r.size) = g.n - g.mark + 1 := by
      have := slot_dist g.mark (g.n - g.mark) r.size (by omega)
      rw [Nat.add_sub_cancel' hm] at this
      unfold Ring.histLen; rw [hc, this]
    rw [lo_of_lt h1, if_pos h1]
    show (if r.histLen (g.mark % r.size) ≤ _ then _ else _) = _
    -- name the start `w` of the full window, so that `omega` meets one subtraction less
    obtain ⟨w, hw0⟩ : ∃ w, w = g.n + 1 - r.size := ⟨_, rfl⟩
    rw [hl, hfi, ← hw0]
    have hw : w ≤ g.mark := by omega
    clear hfi hv ho hf hc hl hs h1 hw0
    simp only [List.length_map, List.length_range', ← List.map_drop, List.drop_range', Nat.mul_one]
    rw [if_pos (by omega)]
    congr 3 <;> omega
  · simp only [if_neg h1, hfi, lo_of_ge h1]

/-- GetHistory returns exactly the retained values, oldest first, ending with the current one. -/
theorem history_eq {α : Type} (r : Ring α) (g : Ghost α) (h : RInv r g) :
    r.history = some ((List.range' (g.lo r.size) (g.n + 1 - g.lo r.size)).map g.vals) := by
  unfold Ring.history
  rw [historyIdx_eq r g h, Option.map_some, List.map_map]
  congr 1
  apply List.map_congr_left
  intro k hk
  have := n_lt_lo_add g r.size
  rw [List.mem_range'_1] at hk
  exact h.2.2.2.2.2 k (by omega) (by omega)

theorem history_write (r : Ring α) (g : Ghost α) (v : α) (h : RInv r g) :
    (r.write v).history
      = some ((List.range' (g.lo r.size) (g.n - g.lo r.size)).map g.vals ++ [v]) := by
  have hlo := lo_le_n g r.size h.2.2.2.1 h.1
  rw [history_eq _ _ (inv_write r g v h)]
  show some ((List.range' (g.lo r.size) (g.n + 1 - g.lo r.size)).map (g.write v).vals) = _
  rw [Nat.sub_add_comm hlo, List.range'_1_concat, List.map_append, Nat.add_sub_cancel' hlo]
  congr 2
  · apply List.map_congr_left
    intro k hk
    rw [List.mem_range'_1] at hk
    exact if_neg (by omega)
  · exact congrArg (· :: []) (if_pos rfl)

/-- `Oldest()` is the frame with global index `lo` — the marked frame while it is buffered,
otherwise the slot about to be overwritten — which is also the head of the history. -/
theorem oldestFrame_eq (r : Ring α) (g : Ghost α) (h : RInv r g) :
    r.oldestFrame = g.vals (g.lo r.size) := by
  obtain ⟨hs, hc, hf, hm, ho, hv⟩ := h
  unfold Ring.oldestFrame Ring.oldestIdx
  rw [ho]
  by_cases h1 : g.n < g.mark + r.size
  · rw [if_pos h1, lo_of_lt h1]
    exact hv g.mark hm h1
  · rw [if_neg h1, lo_of_ge h1, ← hv (g.n + 1 - r.size) (by omega) (by omega)]
    show r.slots ((r.cur + 1) % r.size) = _
    rw [hc, Nat.mod_add_mod, ← Nat.add_mod_right (g.n + 1 - r.size), Nat.sub_add_cancel (by omega)]

theorem no_frame_yet_iff (r : Ring α) (g : Ghost α) (h : RInv r g) :
    (r.cur = 0 ∧ r.full = false) ↔ g.n = 0 := by
  rw [not_full h, h.2.1]
  constructor
  · rintro ⟨h0, hlt⟩
    rwa [Nat.mod_eq_of_lt hlt] at h0
  · intro hn
    rw [hn]
    exact ⟨Nat.zero_mod _, h.1⟩

/-- `CopyRecent()` is the frame completed just before the current one (capacity ≥ 2), and nil
while no frame has been completed. -/
theorem recent_eq (r : Ring α) (g : Ghost α) (h : RInv r g)
    (h2 : 2 ≤ r.size) : r.recent = if g.n = 0 then none else some (g.vals (g.n - 1)) := by
  unfold Ring.recent Ring.recentIdx
  simp only [no_frame_yet_iff r g h]
  split
  · rfl
  · next hn =>
    rw [h.2.1, prev_slot g.n r.size h.1 (by omega), h.2.2.2.2.2 (g.n - 1) (by omega) (by omega)]

/-- With capacity 1 the only slot is both current and "recent". -/
theorem recent_size_one (r : Ring α) (g : Ghost α) (h : RInv r g)
    (h1 : r.size = 1) : r.recent = if g.n = 0 then none else some (g.vals g.n) := by
  unfold Ring.recent Ring.recentIdx
  simp only [no_frame_yet_iff r g h]
  split
  · rfl
  · rw [← h.2.2.2.2.2 g.n (Nat.le_refl _) (by omega), h1, Nat.mod_one, Nat.mod_one]

inductive RingOp (α : Type) where
  | write (v : α)
  | move
  | mark
  | reset

def Ring.apply {α : Type} (r : Ring α) : RingOp α → Ring α
  | .write v => r.write v
  | .move => r.move
  | .mark => r.setAsOldest
  | .reset => r.reset

def Ghost.apply {α : Type} (r : Ring α) (g : Ghost α) : RingOp α → Ghost α
  | .write v => g.write v
  | .move => g.move (r.slots (r.next r.cur))
  | .mark => g.markNow
  | .reset => Ghost.reset (r.slots 0)

def runOps {α : Type} : Ring α × Ghost α → List (RingOp α) → Ring α × Ghost α
  | s, [] => s
  | (r, g), op :: ops => runOps (r.apply op, g.apply r op) ops

theorem size_foldl_apply (ops : List (RingOp α)) (r : Ring α) :
    (ops.foldl Ring.apply r).size = r.size := by
  induction ops generalizing r with
  | nil => rfl
  | cons op ops ih => rw [List.foldl_cons, ih]; cases op <;> rfl

theorem inv_apply (r : Ring α) (g : Ghost α) (op : RingOp α) (h : RInv r g) :
    RInv (r.apply op) (g.apply r op) := by
  cases op with
  | write v => exact inv_write r g v h
  | move => exact inv_move r g h
  | mark => exact inv_mark r g h
  | reset => exact inv_reset r g h

theorem inv_runOps (ops : List (RingOp α)) (r : Ring α) (g : Ghost α) (h : RInv r g) :
    RInv (runOps (r, g) ops).1 (runOps (r, g) ops).2 := by
  induction ops generalizing r g with
  | nil => exact h
  | cons op ops ih => exact ih _ _ (inv_apply r g op h)

theorem runOps_ring (ops : List (RingOp α)) (r : Ring α) (g : Ghost α) :
    (runOps (r, g) ops).1 = ops.foldl Ring.apply r := by
  induction ops generalizing r g with
  | nil => rfl
  | cons op ops ih => simp [runOps, ih]

end TR
