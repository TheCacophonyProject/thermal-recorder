import Proofs.Ring
import Proofs.Scan
import TR.DetSpec
/-!
# Proofs.Det — what `Detect` does, stated once

`detect = pixelsChanged ∘ pre` (`detect_eq`), and each of the three pieces as ONE equation without
case distinction (`updateBackground_eq`, `pre`, `pixelsChanged_eq`); `detect_eq'` puts them together.
Everything C07, C08, C09 and C15 say about a single `Detect` call is read off these equations;
nothing else unfolds the model.  Then: the ghost of the floored ring after a call (`gstep`; `Proofs.Ring`
says what `Oldest()` returns in its terms), what holds of every reachable detector (`Wf`, `Fixed` with a
fixed threshold, `Fresh` right after a `Reset`), and runs over two event lists with the same
skeleton (`SameSkel`).
-/
namespace TR
variable {F : FloatOps}

namespace DCfg

theorem mem_interior (c : DCfg) (y x : Nat) : (y, x) ∈ c.interior ↔ c.inI y x = true := by
  unfold DCfg.interior DCfg.rows DCfg.cols DCfg.inI
  simp only [List.mem_flatMap, List.mem_map, List.mem_range'_1, Prod.mk.injEq, Bool.and_eq_true,
    decide_eq_true_eq]
  constructor
  · rintro ⟨y', hy, x', hx, rfl, rfl⟩
    omega
  · intro h
    exact ⟨y, by omega, x, by omega, rfl, rfl⟩

theorem inI_of_mem {c : DCfg} {p : Nat × Nat} (h : p ∈ c.interior) : c.inI p.1 p.2 = true :=
  (mem_interior c p.1 p.2).1 h

theorem inI_iff (c : DCfg) (y x : Nat) :
    c.inI y x = true ↔ (c.edge ≤ y ∧ y < c.rowStop) ∧ c.edge ≤ x ∧ x < c.colStop := by
  simp only [DCfg.inI, Bool.and_eq_true, decide_eq_true_eq, and_assoc]

/-- `clampY` and `clampX` are this function of (edge, stop, coordinate) -/
def clamp (e s v : Nat) : Nat := if v < e then e else if v ≥ s then s - 1 else v

theorem clampY_eq (c : DCfg) (y : Nat) : c.clampY y = clamp c.edge c.rowStop y := rfl

theorem clampX_eq (c : DCfg) (x : Nat) : c.clampX x = clamp c.edge c.colStop x := rfl

theorem clamp_range {e s : Nat} (v : Nat) (h : e < s) : e ≤ clamp e s v ∧ clamp e s v < s := by
  unfold clamp
  split
  · exact ⟨Nat.le_refl e, h⟩
  · split <;> omega

theorem clamp_of_mem {e s v : Nat} (h : e ≤ v ∧ v < s) : clamp e s v = v := by
  rw [clamp, if_neg (Nat.not_lt.2 h.1), if_neg (Nat.not_le.2 h.2)]

/-- no coordinate of the range is nearer to `v` than the clamped one (`|a − b|` with truncated subtraction) -/
theorem clamp_nearest {e s v' : Nat} (v : Nat) (h : e ≤ v' ∧ v' < s) :
    (clamp e s v - v) + (v - clamp e s v) ≤ (v' - v) + (v - v') := by
  unfold clamp
  split
  · next hv =>
    rw [Nat.sub_eq_zero_of_le (Nat.le_of_lt hv)]
    exact Nat.le_trans (Nat.sub_le_sub_right h.1 v) (Nat.le_add_right _ _)
  · split
    · next hv =>
      rw [Nat.sub_eq_zero_of_le (Nat.le_trans (Nat.sub_le s 1) hv), Nat.zero_add]
      exact Nat.le_trans (Nat.sub_le_sub_left (Nat.le_sub_one_of_lt h.2) v) (Nat.le_add_left _ _)
    · rw [Nat.sub_self]; exact Nat.zero_le _

theorem clampY_range (c : DCfg) (y : Nat) (h : 2 * c.edge < c.resY) :
    c.edge ≤ c.clampY y ∧ c.clampY y < c.rowStop :=
  clampY_eq c y ▸ clamp_range y (by unfold rowStop; omega)

theorem clampX_range (c : DCfg) (x : Nat) (h : 2 * c.edge < c.resX) :
    c.edge ≤ c.clampX x ∧ c.clampX x < c.colStop :=
  clampX_eq c x ▸ clamp_range x (by unfold colStop; omega)

theorem clampY_of_mem (c : DCfg) (y : Nat) (h : c.edge ≤ y ∧ y < c.rowStop) : c.clampY y = y :=
  (clampY_eq c y).trans (clamp_of_mem h)

theorem clampX_of_mem (c : DCfg) (x : Nat) (h : c.edge ≤ x ∧ x < c.colStop) : c.clampX x = x :=
  (clampX_eq c x).trans (clamp_of_mem h)

theorem inI_clamp (c : DCfg) (h : 2 * c.edge < c.resX ∧ 2 * c.edge < c.resY) (y x : Nat) :
    c.inI (c.clampY y) (c.clampX x) = true :=
  (inI_iff c _ _).2 ⟨clampY_range c y h.2, clampX_range c x h.1⟩

end DCfg

/-- two frames agree on every interior pixel -/
def C08.IntEq (c : DCfg) (f g : Frame) : Prop := ∀ y x, c.inI y x = true → f y x = g y x

theorem C08.IntEq.refl (c : DCfg) (f : Frame) : C08.IntEq c f f := fun _ _ _ => rfl

/-- the two-slot diff ring: after `write v` and `move` the current slot is the one not written, the previous diff -/
theorem Ring.prev_read {α : Type} (r : Ring α) (v : α) (h : r.size = 2) :
    ((r.write v).move).current = r.slots ((r.cur + 1) % 2) := by
  simp only [Ring.current, Ring.move, Ring.write, Ring.next, h]
  have : (r.cur + 1) % 2 ≠ r.cur := by omega
  simp only [this, if_false]

/-- … and the other slot holds `v`, the diff just written -/
theorem Ring.prev_after {α : Type} (r : Ring α) (v : α) (h : r.size = 2) (hc : r.cur < 2) :
    ((r.write v).move).slots (((r.write v).move.cur + 1) % 2) = v ∧
    (r.write v).move.cur = (r.cur + 1) % 2 ∧ (r.write v).move.size = 2 := by
  simp only [Ring.move, Ring.write, Ring.next, h]
  have : ((r.cur + 1) % 2 + 1) % 2 = r.cur := by omega
  simp only [this, if_true, and_self]

theorem oldestFrame_write {α : Type} (r : Ring α) (g : Ghost α) (v : α) (h : RInv r g) :
    (r.write v).oldestFrame = if g.lo r.size = g.n then v else g.vals (g.lo r.size) := by
  rw [oldestFrame_eq _ _ (inv_write _ _ v h)]
  rfl

namespace Det
open C08 (IntEq)

theorem meanOf_congr (c : DCfg) {a b : Frame} (h : IntEq c a b) : meanOf F c a = meanOf F c b :=
  foldl_congr_mem _ _ _ (fun _ p hp => by rw [h _ _ (DCfg.inI_of_mem hp)]) _

theorem countChanged_congr (c : DCfg) {a b u v : Frame} (hd : IntEq c a b) (hp : IntEq c u v)
    (o : Bool) :
    countChanged c a (if o then none else some u) = countChanged c b (if o then none else some v) := by
  unfold countChanged
  congr 1
  apply List.filter_congr
  intro p hm
  have hi := DCfg.inI_of_mem hm
  cases o <;> simp only [hd _ _ hi, hp _ _ hi, if_true, Bool.false_eq_true, if_false]

theorem countChanged_zero (c : DCfg) (diff : Frame) (prev : Option Frame)
    (hd : ∀ y x, c.inI y x = true → diff y x = 0) : countChanged c diff prev = 0 := by
  unfold countChanged
  rw [List.length_eq_zero_iff, List.filter_eq_nil_iff]
  intro p hm
  simp [hd _ _ (DCfg.inI_of_mem hm)]

theorem pixDiff_self (w : Bool) (t a : Nat) : pixDiff w t a a = 0 := by
  unfold pixDiff
  simp

/-- `updateBackground` takes the frame's value at this pixel: on the first update (`backgroundFrames = 0`)
everywhere, later where the previous frame was FFC-affected (`p`) or the frame is lower -/
def replaces (d : Det F) (f : Frame) (p : Bool) (y x : Nat) : Bool :=
  decide (d.backgroundFrames = 0) || p || F.lower (f y x) (d.weight y x) (d.bg y x)

/-- the background after `updateBackground` (`updateBackground_eq`) -/
def bgNext (c : DCfg) (d : Det F) (f : Frame) (p : Bool) : Frame := fun y x =>
  if c.inI y x && replaces d f p y x then f y x else d.bg y x

/-- its weights: untouched by the first update, then reset where a pixel is replaced and bumped where it is kept -/
def weightNext (c : DCfg) (d : Det F) (f : Frame) (p : Bool) : Nat → Nat → F.ω :=
  if d.backgroundFrames = 0 then d.weight else fun y x =>
    if c.inI y x then (if replaces d f p y x then F.w0 else F.bump (d.weight y x)) else d.weight y x

/-- its `changed` result: some interior pixel was replaced -/
def changedNext (c : DCfg) (d : Det F) (f : Frame) (p : Bool) : Bool :=
  decide (d.backgroundFrames = 0) || c.interior.any fun q => replaces d f p q.1 q.2

theorem updateBackground_eq (c : DCfg) (d : Det F) (f : Frame) (p : Bool) :
    updateBackground c d f p =
      ({ d with backgroundFrames := d.backgroundFrames + 1, bgSeeded := true, bg := bgNext c d f p,
                weight := weightNext c d f p },
        meanOf F c (bgNext c d f p), changedNext c d f p) := by
  unfold updateBackground bgNext weightNext changedNext replaces
  -- the first update (`replaces` true everywhere) and the later ones as one formula: `simp` evaluates both per case
  by_cases h : d.backgroundFrames = 0 <;> simp [h]

theorem next_congr (c : DCfg) {dA dB : Det F} {f g : Frame}
    (hbf : dA.backgroundFrames = dB.backgroundFrames) (hbg : IntEq c dA.bg dB.bg)
    (hw : ∀ y x, c.inI y x = true → dA.weight y x = dB.weight y x) (hfg : IntEq c f g) (p : Bool) :
    IntEq c (bgNext c dA f p) (bgNext c dB g p) ∧
      (∀ y x, c.inI y x = true → weightNext c dA f p y x = weightNext c dB g p y x) ∧
      changedNext c dA f p = changedNext c dB g p := by
  have hr : ∀ y x, c.inI y x = true → replaces dA f p y x = replaces dB g p y x := fun y x hi => by
    unfold replaces
    rw [hbf, hfg y x hi, hw y x hi, hbg y x hi]
  refine ⟨fun y x hi => ?_, fun y x hi => ?_, ?_⟩
  · show (if c.inI y x && replaces dA f p y x then f y x else dA.bg y x) = _
    rw [hr y x hi, hfg y x hi, hbg y x hi]
    rfl
  · unfold weightNext
    rw [hbf]
    by_cases h0 : dB.backgroundFrames = 0
    · rw [if_pos h0, if_pos h0]; exact hw y x hi
    · rw [if_neg h0, if_neg h0]
      show (if c.inI y x then _ else _) = (if c.inI y x then _ else _)
      rw [hr y x hi, hw y x hi]
  · unfold changedNext
    rw [hbf]
    exact congrArg (_ || ·) (any_congr_mem _ _ _ fun q hq => hr q.1 q.2 (DCfg.inI_of_mem hq))

/-- the threshold `Detect` hands to `pixelsChanged` on a dynamic, FFC-free frame -/
def threshNext (c : DCfg) (d : Det F) (f : Frame) : Nat :=
  if changedNext c d f d.affected && decide (d.backgroundFrames + 1 > c.previewFrames) then
    clampThresh c (F.trunc (meanOf F c (bgNext c d f d.affected)))
  else d.tempThresh

/-- the detector `Detect` hands to `pixelsChanged` -/
def pre (c : DCfg) (d : Det F) (f : Frame) (ffc : Bool) : Det F :=
  if c.dynamic && !ffc then
    { d with affected := ffc, backgroundFrames := d.backgroundFrames + 1, bgSeeded := true,
             bg := bgNext c d f d.affected, weight := weightNext c d f d.affected,
             tempThresh := threshNext c d f }
  else { d with affected := ffc }

/-- the diff frame `pixelsChanged` writes: threshold `t`, the rings of `d` -/
def newDiff (c : DCfg) (t : Nat) (d : Det F) (f : Frame) : Frame := fun y x =>
  if c.inI y x then pixDiff c.warmerOnly t (f y x) ((d.floored.write f).oldestFrame y x)
  else d.diffs.current y x

theorem pixelsChanged_eq (c : DCfg) (d : Det F) (f : Frame) (ffc p : Bool) :
    pixelsChanged c d f ffc p =
      ({ d with
          floored := (if d.firstDiff && (ffc || p) then (d.floored.write f).setAsOldest
                      else d.floored.write f).move,
          diffs := (d.diffs.write (newDiff c d.tempThresh d f)).move,
          firstDiff := !(d.firstDiff && (ffc || p)) },
       d.firstDiff && !(ffc || p) &&
        decide (countChanged c (newDiff c d.tempThresh d f)
          (if c.useOneDiff then none
           else some ((d.diffs.write (newDiff c d.tempThresh d f)).move).current) ≥ c.countThresh)) := by
  obtain ⟨fl, df, fd, t, bg, bs, w, bf, aff⟩ := d
  unfold newDiff
  -- the three branches of `pixelsChanged` as one record: `simp` evaluates the Boolean conditions per case
  cases fd <;> cases hq : (ffc || p) <;> simp [pixelsChanged, hq]

theorem detect_eq (c : DCfg) (d : Det F) (f : Frame) (ffc : Bool) :
    detect c d f ffc = pixelsChanged c (pre c d f ffc) f ffc d.affected := by
  unfold detect pre threshNext
  cases h : (c.dynamic && !ffc)
  · rfl
  · simp only [updateBackground_eq, if_true]
    show pixelsChanged c (if changedNext c d f d.affected && _ then _ else _) f ffc d.affected = _
    split <;> rfl

theorem pre_static {c : DCfg} {ffc : Bool} (h : (c.dynamic && !ffc) = false) (d : Det F) (f : Frame) :
    pre c d f ffc = { d with affected := ffc } := by
  simp only [pre, h, Bool.false_eq_true, if_false]

theorem pre_dynamic {c : DCfg} (h : c.dynamic = true) (d : Det F) (f : Frame) :
    pre c d f false =
      { d with affected := false, backgroundFrames := d.backgroundFrames + 1, bgSeeded := true,
               bg := bgNext c d f d.affected, weight := weightNext c d f d.affected,
               tempThresh := threshNext c d f } := by
  simp only [pre, h, Bool.not_false, Bool.and_self, if_true]

theorem pre_cases (c : DCfg) (ffc : Bool) :
    (c.dynamic && !ffc) = false ∨ (c.dynamic = true ∧ ffc = false) := by
  cases c.dynamic <;> cases ffc <;> simp

/-- the whole of `Detect`: the background fields are those of `pre`, the rings, `firstDiff` and the
verdict those of `pixelsChanged` -/
theorem detect_eq' (c : DCfg) (d : Det F) (f : Frame) (ffc : Bool) :
    detect c d f ffc =
      ({ pre c d f ffc with
          floored := (if d.firstDiff && (ffc || d.affected) then (d.floored.write f).setAsOldest
                      else d.floored.write f).move,
          diffs := (d.diffs.write (newDiff c (pre c d f ffc).tempThresh d f)).move,
          firstDiff := !(d.firstDiff && (ffc || d.affected)),
          affected := ffc },
       d.firstDiff && !(ffc || d.affected) &&
        decide (countChanged c (newDiff c (pre c d f ffc).tempThresh d f)
          (if c.useOneDiff then none
           else some ((d.diffs.write (newDiff c (pre c d f ffc).tempThresh d f)).move).current)
            ≥ c.countThresh)) := by
  rw [detect_eq, pixelsChanged_eq]
  cases h : (c.dynamic && !ffc) <;> simp only [pre, h, Bool.false_eq_true, if_false, if_true] <;> rfl

theorem detect_affected (c : DCfg) (d : Det F) (f : Frame) (ffc : Bool) :
    (detect c d f ffc).1.affected = ffc := by
  rw [detect_eq']

theorem detect_firstDiff (c : DCfg) (d : Det F) (f : Frame) (ffc : Bool) :
    (detect c d f ffc).1.firstDiff = !(d.firstDiff && (ffc || d.affected)) := by
  rw [detect_eq']

theorem detect_floored (c : DCfg) (d : Det F) (f : Frame) (ffc : Bool) :
    (detect c d f ffc).1.floored =
      (if d.firstDiff && (ffc || d.affected) then (d.floored.write f).setAsOldest
       else d.floored.write f).move := by
  rw [detect_eq']

theorem detect_diffs (c : DCfg) (d : Det F) (f : Frame) (ffc : Bool) :
    (detect c d f ffc).1.diffs = (d.diffs.write (newDiff c (pre c d f ffc).tempThresh d f)).move := by
  rw [detect_eq']

theorem detect_background (c : DCfg) (d : Det F) (f : Frame) (ffc : Bool) :
    (detect c d f ffc).1.tempThresh = (pre c d f ffc).tempThresh ∧
      (detect c d f ffc).1.bg = (pre c d f ffc).bg ∧
      (detect c d f ffc).1.weight = (pre c d f ffc).weight ∧
      (detect c d f ffc).1.backgroundFrames = (pre c d f ffc).backgroundFrames := by
  rw [detect_eq']
  exact ⟨rfl, rfl, rfl, rfl⟩

theorem detect_backgroundFrames (c : DCfg) (d : Det F) (f : Frame) (ffc : Bool) :
    (detect c d f ffc).1.backgroundFrames =
      if c.dynamic && !ffc then d.backgroundFrames + 1 else d.backgroundFrames := by
  rw [(detect_background c d f ffc).2.2.2]
  unfold pre
  split <;> rfl

/-- no verdict without a previous diff, nor on an FFC-affected frame or the frame after one -/
theorem detect_quiet (c : DCfg) (d : Det F) (f : Frame) (ffc : Bool)
    (h : d.firstDiff = false ∨ ffc = true ∨ d.affected = true) : (detect c d f ffc).2 = false := by
  rw [detect_eq']
  rcases h with h | h | h <;> simp [h]

/-- ghost of the floored ring after `Detect`: the frame is written, marked as oldest in the branch that
restarts the comparison, and the ring moves on -/
def gstep (d : Det F) (g : Ghost Frame) (f : Frame) (ffc : Bool) : Ghost Frame :=
  if d.firstDiff && (ffc || d.affected) then
    ((g.write f).markNow).move ((d.floored.write f).slots ((d.floored.write f).next (d.floored.write f).cur))
  else (g.write f).move ((d.floored.write f).slots ((d.floored.write f).next (d.floored.write f).cur))

theorem gstep_inv (c : DCfg) (d : Det F) (g : Ghost Frame) (f : Frame) (ffc : Bool) (h : RInv d.floored g) :
    RInv (detect c d f ffc).1.floored (gstep d g f ffc) := by
  rw [detect_floored]
  unfold gstep
  split
  · exact inv_move _ _ (inv_mark _ _ (inv_write _ _ f h))
  · exact inv_move _ _ (inv_write _ _ f h)

theorem gstep_n (d : Det F) (g : Ghost Frame) (f : Frame) (ffc : Bool) : (gstep d g f ffc).n = g.n + 1 := by
  unfold gstep
  split <;> rfl

theorem gstep_mark (d : Det F) (g : Ghost Frame) (f : Frame) (ffc : Bool) :
    (gstep d g f ffc).mark = if d.firstDiff && (ffc || d.affected) then g.n else g.mark := by
  unfold gstep
  split <;> rfl

theorem gstep_vals (d : Det F) (g : Ghost Frame) (f : Frame) (ffc : Bool) (k : Nat) (hk : k ≤ g.n) :
    (gstep d g f ffc).vals k = if k = g.n then f else g.vals k := by
  have : k ≠ g.n + 1 := by omega
  unfold gstep
  split <;> simp [Ghost.move, Ghost.write, Ghost.markNow, this]

theorem after_append (c : DCfg) (d : Det F) (xs ys : List DEv) :
    after c d (xs ++ ys) = after c (after c d xs) ys := by
  induction xs generalizing d with
  | nil => rfl
  | cons e es ih => exact ih _

theorem after_snoc_frame (c : DCfg) (d : Det F) (es : List DEv) (f : Frame) (ffc : Bool) :
    after c d (es ++ [.frame f ffc]) = (detect c (after c d es) f ffc).1 := by
  rw [after_append]
  rfl

theorem after_snoc_reset (c : DCfg) (d : Det F) (es : List DEv) :
    after c d (es ++ [.reset]) = (after c d es).reset := by
  rw [after_append]
  rfl

theorem outputs_append (c : DCfg) (d : Det F) (xs ys : List DEv) :
    outputs c d (xs ++ ys) = outputs c d xs ++ outputs c (after c d xs) ys := by
  induction xs generalizing d with
  | nil => rfl
  | cons e es ih =>
    cases e with
    | reset => exact ih _
    | frame f b => exact congrArg (_ :: ·) (ih _)

theorem after_invariant (c : DCfg) (P : Det F → Prop)
    (hframe : ∀ d f ffc, P d → P (detect c d f ffc).1) (hreset : ∀ d, P d → P d.reset)
    (d : Det F) (h : P d) (evs : List DEv) : P (after c d evs) := by
  induction evs generalizing d with
  | nil => exact h
  | cons e es ih =>
    cases e with
    | frame f ffc => exact ih _ (hframe d f ffc h)
    | reset => exact ih _ (hreset d h)

/-- Two event lists with the same resets and FFC flags whose corresponding frames are related by `E`.
`C08.SameInterior c`, `C08.SameFloored c`, `C09.SameShape` are this at `IntEq c`, `C08.FloorEq c`, `fun _ _ => True`
(their `.skel`); they are inductives of their own because the statements of C08 and C09 name them. -/
inductive SameSkel (E : Frame → Frame → Prop) : List DEv → List DEv → Prop
  | nil : SameSkel E [] []
  | frame {f g : Frame} {ffc : Bool} {as bs : List DEv} : E f g → SameSkel E as bs →
      SameSkel E (.frame f ffc :: as) (.frame g ffc :: bs)
  | reset {as bs : List DEv} : SameSkel E as bs → SameSkel E (.reset :: as) (.reset :: bs)

theorem SameSkel.mono {E E' : Frame → Frame → Prop} (h : ∀ f g, E f g → E' f g) {as bs : List DEv}
    (hs : SameSkel E as bs) : SameSkel E' as bs := by
  induction hs with
  | nil => exact .nil
  | frame hfg _ ih => exact .frame (h _ _ hfg) ih
  | reset _ ih => exact .reset ih

theorem SameSkel.after_rel {c : DCfg} {E : Frame → Frame → Prop} {R : Det F → Det F → Prop}
    (hdet : ∀ {dA dB f g} ffc, R dA dB → E f g → R (detect c dA f ffc).1 (detect c dB g ffc).1)
    (hreset : ∀ {dA dB}, R dA dB → R dA.reset dB.reset) {as bs : List DEv} (hs : SameSkel E as bs) :
    ∀ dA dB : Det F, R dA dB → R (after c dA as) (after c dB bs) := by
  induction hs with
  | nil => exact fun _ _ h => h
  | frame hfg _ ih => exact fun _ _ h => ih _ _ (hdet _ h hfg)
  | reset _ ih => exact fun _ _ h => ih _ _ (hreset h)

theorem SameSkel.outputs_eq {c : DCfg} {E : Frame → Frame → Prop} {R : Det F → Det F → Prop}
    (hdet : ∀ {dA dB f g} ffc, R dA dB → E f g →
      R (detect c dA f ffc).1 (detect c dB g ffc).1 ∧ (detect c dA f ffc).2 = (detect c dB g ffc).2)
    (hreset : ∀ {dA dB}, R dA dB → R dA.reset dB.reset) {as bs : List DEv} (hs : SameSkel E as bs) :
    ∀ dA dB : Det F, R dA dB → outputs c dA as = outputs c dB bs := by
  induction hs with
  | nil => exact fun _ _ _ => rfl
  | frame hfg _ ih =>
    intro dA dB h
    simp only [outputs, stepEv]
    rw [(hdet _ h hfg).2, ih _ _ (hdet _ h hfg).1]
  | reset _ ih => exact fun _ _ h => ih _ _ (hreset h)

structure Wf (c : DCfg) (d : Det F) : Prop where
  ds : d.diffs.size = 2
  dc : d.diffs.cur < 2
  fs : d.floored.size = c.gap + 1
  ri : ∃ g, RInv d.floored g

theorem wf_init (F : FloatOps) (c : DCfg) : Wf c (init F c) :=
  ⟨rfl, Nat.zero_lt_two, rfl, ⟨_, inv_new _ _ (Nat.succ_pos _)⟩⟩

theorem wf_detect (c : DCfg) (d : Det F) (f : Frame) (ffc : Bool) (w : Wf c d) :
    Wf c (detect c d f ffc).1 := by
  obtain ⟨g, hg⟩ := w.ri
  obtain ⟨_, hcur, hsize⟩ := Ring.prev_after d.diffs (newDiff c (pre c d f ffc).tempThresh d f) w.ds w.dc
  refine ⟨?_, ?_, ?_, _, gstep_inv c d g f ffc hg⟩
  · rw [detect_diffs]
    exact hsize
  · rw [detect_diffs, hcur]
    omega
  · rw [detect_floored]
    split <;> exact w.fs

theorem wf_reset (c : DCfg) (d : Det F) (w : Wf c d) : Wf c d.reset := by
  obtain ⟨g, hg⟩ := w.ri
  exact ⟨w.ds, Nat.zero_lt_two, w.fs, ⟨_, inv_reset _ _ hg⟩⟩

theorem wf_after (c : DCfg) (evs : List DEv) (d : Det F) (w : Wf c d) : Wf c (after c d evs) :=
  after_invariant c (Wf c) (wf_detect c) (wf_reset c) d w evs

end Det

namespace PipeC09
open Det

/-- with `dynamic = false` the threshold and the background state of every reachable detector are those of a
fresh one -/
structure Fixed (c : DCfg) (d : Det F) : Prop where
  t : d.tempThresh = c.tempThresh
  bg : d.bg = Det.zeroFrame
  seeded : d.bgSeeded = false
  w : d.weight = fun _ _ => F.w0
  bf : d.backgroundFrames = 0

theorem fixed_after (F : FloatOps) (c : DCfg) (hdyn : c.dynamic = false) (evs : List DEv) :
    Fixed c (Det.after c (Det.init F c) evs) := by
  refine after_invariant c (Fixed c) (fun d f ffc h => ?_) (fun d h => ⟨h.t, h.bg, h.seeded, h.w, rfl⟩) _
    ⟨rfl, rfl, rfl, rfl, rfl⟩ evs
  rw [detect_eq', pre_static (by rw [hdyn]; rfl)]
  exact ⟨h.t, h.bg, h.seeded, h.w, h.bf⟩

/-- the floored ring holds no frame `Oldest()` could return but the one about to be written -/
def Fresh (d : Det F) : Prop := ∃ g, RInv d.floored g ∧ g.mark = g.n

theorem fresh_reset (c : DCfg) (d : Det F) (w : Wf c d) : Fresh d.reset := by
  obtain ⟨g, hg⟩ := w.ri
  exact ⟨_, inv_reset _ _ hg, rfl⟩

/-- the frame a `Fresh` detector is given is compared with itself: no pixel counts -/
theorem fresh_count (c : DCfg) (d : Det F) (f : Frame) (t : Nat) (o : Option Frame) (h : Fresh d) :
    countChanged c (newDiff c t d f) o = 0 := by
  obtain ⟨g, hg, hm⟩ := h
  have hs := hg.1
  refine countChanged_zero c _ o fun y x hi => ?_
  simp only [newDiff, hi, if_true]
  rw [oldestFrame_write _ _ f hg, if_pos (by unfold Ghost.lo; omega)]
  exact pixDiff_self _ _ _

theorem fresh_quiet (c : DCfg) (hc : 1 ≤ c.countThresh) (d : Det F) (f : Frame) (ffc : Bool) (h : Fresh d) :
    (Det.detect c d f ffc).2 = false := by
  have : ¬ (0 ≥ c.countThresh) := by omega
  rw [detect_eq', fresh_count c d f _ _ h]
  simp [this]

end PipeC09
end TR
