import Proofs.PipeC01
/-!
# Proofs.PipeThr — the composed pipeline WITH the throttle

`Pipe.motionCall` turns every processor call on the motion sink into a throttle request at tick 0
(the bucket `TState.init c.bucketFrames 1 c.minLenFrames` is never refilled); the base-recorder
calls the throttle emits create / extend / close the motion files.

* the bucket at tick 0 (the equations of `TState.step` are `Proofs.ThrStep`'s);
* the invariant `TInv` between the motion files, the accumulator of upstream recordings
  (`C01Spec.RecAcc`) and the throttle state, in three parts: the files are cut out of the recordings
  (`CutOf`: every file holds a prefix of an upstream recording, the concatenation of the files is a sublist
  of the concatenation of the recordings; kept while the recordings only grow, `Grows`); the files are paid
  for (`Paid`: frames written + tokens left = bucket size, every file was started with `minLen` tokens in
  hand); the throttle's flag says which file is open;
* one processor observation / one observation list preserves it, and is at most one file operation each
  (`OneOp`; `ti_fold` carries any relation that holds across single file operations).
-/
namespace TR.PipeThr
open TR TR.C01Spec TR.PipeLemmas

theorem adjust0_avail (b : Bucket) : (b.adjust 0).avail = b.avail := by
  unfold Bucket.adjust
  split
  · rfl
  · next h =>
    simp only [Nat.zero_sub, Nat.zero_mul, Nat.add_zero]
    omega

/-- `TakeAvailable(1)` at tick 0: a token is taken iff there is one -/
theorem take1_zero (b : Bucket) :
    (b.take1 0).2 = (if b.avail = 0 then 0 else 1) ∧ (b.take1 0).1.avail = b.avail - 1 := by
  have ha := adjust0_avail b
  unfold Bucket.take1
  by_cases h : b.avail = 0 <;> simp [ha, h]

/-- frame lists of a newest-first file list, oldest first -/
def G (ms : List RecFile) : List (List Nat) := (ms.map (·.frames)).reverse

theorem G_cons (x : RecFile) (ms : List RecFile) : G (x :: ms) = G ms ++ [x.frames] := by
  simp [G]

/-- every file was started with `M` tokens in hand: the frames of all earlier files plus `M` fit in `B` -/
def Tok (B M : Nat) (L : List (List Nat)) : Prop := ∀ k, k < L.length → M + (L.take k).flatten.length ≤ B

theorem tok_snoc {B M : Nat} {L : List (List Nat)} (y : List Nat) (h : Tok B M L)
    (hl : M + L.flatten.length ≤ B) : Tok B M (L ++ [y]) := by
  intro k hk
  simp only [List.length_append, List.length_singleton] at hk
  by_cases hk' : k < L.length
  · rw [List.take_append_of_le_length (Nat.le_of_lt hk')]
    exact h k hk'
  · have hk'' : k = L.length := by omega
    subst hk''
    rw [List.take_left']
    · exact hl
    · rfl

theorem tok_last {B M : Nat} {L : List (List Nat)} (y y' : List Nat) (h : Tok B M (L ++ [y])) :
    Tok B M (L ++ [y']) := by
  intro k hk
  simp only [List.length_append, List.length_singleton] at hk
  have hk' : k ≤ L.length := by omega
  have := h k (by simp only [List.length_append, List.length_singleton]; omega)
  rw [List.take_append_of_le_length hk'] at this ⊢
  exact this

/-- the files `L` are cut out of the recordings `A` (both oldest first): every file holds a prefix of a
recording, and all files, concatenated, are a sublist of all recordings, concatenated -/
structure CutOf (L A : List (List Nat)) : Prop where
  pre : ∀ g ∈ L, ∃ r ∈ A, g <+: r
  sub : L.flatten.Sublist A.flatten

/-- the files `L` against the bucket: every forwarded frame cost exactly one token and nothing was refilled;
every file was started with `M` tokens in hand -/
structure Paid (B M : Nat) (L : List (List Nat)) (avail : Nat) : Prop where
  tot : L.flatten.length + avail = B
  tok : Tok B M L

/-- the recordings `A'` continue the recordings `A`: new ones at the end, old ones extended -/
def Grows (A A' : List (List Nat)) : Prop := (∀ r ∈ A, ∃ r' ∈ A', r <+: r') ∧ A.flatten.Sublist A'.flatten

theorem grows_start (a : RecAcc) (hc : a.cur = none) :
    Grows a.all (RecAcc.all { done := a.all, cur := some [] }) := by
  have e : RecAcc.all { done := a.all, cur := some [] } = a.all ++ [[]] := by simp [RecAcc.all, hc]
  rw [e]
  exact ⟨fun r hr => ⟨r, List.mem_append_left _ hr, List.prefix_refl _⟩, by simp⟩

theorem grows_write (a : RecAcc) (r : List Nat) (id : Nat) (hc : a.cur = some r) :
    Grows a.all (RecAcc.all { done := a.done, cur := some (r ++ [id]) }) := by
  refine ⟨fun r' hr' => ?_, by rw [all_write_flatten a r id hc]; exact List.sublist_append_left _ _⟩
  rw [all_some a r hc, List.mem_append, List.mem_singleton] at hr'
  rw [all_write]
  rcases hr' with hr' | rfl
  · exact ⟨r', List.mem_append_left _ hr', List.prefix_refl _⟩
  · exact ⟨r' ++ [id], List.mem_append_right _ (List.mem_singleton.mpr rfl), List.prefix_append _ _⟩

theorem grows_stop (a : RecAcc) : Grows a.all (RecAcc.all { done := a.all, cur := none }) := by
  have e : RecAcc.all { done := a.all, cur := none } = a.all := by simp [RecAcc.all]
  rw [e]
  exact ⟨fun r hr => ⟨r, hr, List.prefix_refl _⟩, List.Sublist.refl _⟩

theorem CutOf.mono {L A A' : List (List Nat)} (h : CutOf L A) (hg : Grows A A') : CutOf L A' :=
  ⟨fun g hg' =>
    let ⟨r, hr, hp⟩ := h.pre g hg'
    let ⟨r', hr', hp'⟩ := hg.1 r hr
    ⟨r', hr', hp.trans hp'⟩, h.sub.trans hg.2⟩

theorem CutOf.snoc_nil {L A : List (List Nat)} (h : CutOf L A) {r : List Nat} (hr : r ∈ A) : CutOf (L ++ [[]]) A := by
  refine ⟨fun g hg => ?_, by simpa using h.sub⟩
  rcases List.mem_append.mp hg with hg | hg
  · exact h.pre g hg
  · rw [List.mem_singleton.mp hg]; exact ⟨r, hr, List.nil_prefix⟩

theorem Paid.snoc_nil {B M avail : Nat} {L : List (List Nat)} (h : Paid B M L avail) (hM : M ≤ avail) :
    Paid B M (L ++ [[]]) avail :=
  ⟨by simpa using h.tot, tok_snoc _ h.tok (by have := h.tot; omega)⟩

structure TInv (B M : Nat) (ms : List RecFile) (a : RecAcc) (t : TState) : Prop where
  ml : t.minLen = M
  cutOf : CutOf (G ms) a.all
  paid : Paid B M (G ms) t.bucket.avail
  /-- while the throttle records, the newest file is open and holds the whole open recording -/
  recd : t.recording = true → ∃ x rest r, ms = x :: rest ∧ x.closed = false ∧ a.cur = some r ∧ x.frames = r ∧
    ∀ f ∈ rest, f.closed = true
  idle : t.recording = false → ∀ f ∈ ms, f.closed = true
  /-- upstream records, the throttle does not: the restart path of `WriteFrame` cannot forward a frame -/
  cut : t.recording = false → ∀ r, a.cur = some r → t.bucket.avail < M ∨ t.bucket.avail = 0

section steps
variable {B M : Nat} {ms : List RecFile} {a a' : RecAcc} {t t' : TState}

theorem tinv_idle_of_none (h : TInv B M ms a t) (hc : a.cur = none) : t.recording = false := by
  cases hr : t.recording with
  | false => rfl
  | true =>
    obtain ⟨_, _, r, _, _, hcur, _⟩ := h.recd hr
    rw [hc] at hcur; cases hcur

/-- the throttle is idle and stays so: only the accumulator moves -/
theorem tinv_idle (h : TInv B M ms a t) (hg : Grows a.all a'.all) (hr : t.recording = false)
    (hr' : t'.recording = false) (hav : t'.bucket.avail = t.bucket.avail) (hml : t'.minLen = t.minLen)
    (hcut : ∀ r, a'.cur = some r → t.bucket.avail < M ∨ t.bucket.avail = 0) : TInv B M ms a' t' :=
  ⟨hml.trans h.ml, h.cutOf.mono hg, hav ▸ h.paid, fun hf => Bool.noConfusion (hr'.symm.trans hf), fun _ => h.idle hr,
    fun _ r hc => hav ▸ hcut r hc⟩

/-- the throttle closes its open file -/
theorem tinv_close (h : TInv B M ms a t) (hg : Grows a.all a'.all) (ms' : List RecFile) (hr : t.recording = true)
    (hms : ∀ x rest, ms = x :: rest → x.closed = false → ms' = { x with closed := true } :: rest)
    (hr' : t'.recording = false) (hav : t'.bucket.avail = t.bucket.avail) (hml : t'.minLen = t.minLen)
    (hcut : ∀ r, a'.cur = some r → t.bucket.avail < M ∨ t.bucket.avail = 0) : TInv B M ms' a' t' := by
  obtain ⟨x, rest, r, hx, hxc, _, _, hrest⟩ := h.recd hr
  have hG' : G ms' = G ms := by rw [hms x rest hx hxc, hx, G_cons, G_cons]
  refine ⟨hml.trans h.ml, hG' ▸ h.cutOf.mono hg, hG' ▸ hav ▸ h.paid, fun hf => Bool.noConfusion (hr'.symm.trans hf), ?_,
    fun _ r hc => hav ▸ hcut r hc⟩
  intro _ f hf
  rw [hms x rest hx hxc] at hf
  rcases List.mem_cons.mp hf with rfl | hf
  · rfl
  · exact hrest f hf

/-- an upstream start that the throttle forwards: a new, empty, open file -/
theorem tinv_start_yes (h : TInv B M ms a t) (hc : a.cur = none) (x : RecFile) (hxf : x.frames = [])
    (hxc : x.closed = false) (hr' : t'.recording = true) (hav : t'.bucket.avail = t.bucket.avail)
    (hml : t'.minLen = t.minLen) (hge : t.minLen ≤ t.bucket.avail) :
    TInv B M (x :: ms) { done := a.all, cur := some [] } t' := by
  have hnew : ([] : List Nat) ∈ RecAcc.all { done := a.all, cur := some [] } := by simp [RecAcc.all]
  refine ⟨hml.trans h.ml, ?_, ?_, fun _ => ⟨x, ms, [], rfl, hxc, rfl, hxf, h.idle (tinv_idle_of_none h hc)⟩,
    fun hf => Bool.noConfusion (hr'.symm.trans hf), fun hf => Bool.noConfusion (hr'.symm.trans hf)⟩
  · rw [G_cons, hxf]; exact (h.cutOf.mono (grows_start a hc)).snoc_nil hnew
  · rw [G_cons, hxf, hav]; exact h.paid.snoc_nil (h.ml ▸ hge)

/-- a write that takes a token: the frame goes to the open file -/
theorem tinv_write_fwd (h : TInv B M ms a t) (id : Nat) (r : List Nat) (hcur : a.cur = some r)
    (ms' : List RecFile) (hr : t.recording = true)
    (hms : ∀ x rest, ms = x :: rest → x.closed = false → ms' = { x with frames := x.frames ++ [id] } :: rest)
    (hr' : t'.recording = true) (hav : t'.bucket.avail + 1 = t.bucket.avail) (hml : t'.minLen = t.minLen) :
    TInv B M ms' { done := a.done, cur := some (r ++ [id]) } t' := by
  obtain ⟨x, rest, r', hx, hxc, hcur', hxf, hrest⟩ := h.recd hr
  rw [hcur] at hcur'; cases hcur'
  have htot := h.paid.tot
  have hG : G ms = G rest ++ [r] := by rw [hx, G_cons, hxf]
  have hG' : G ms' = G rest ++ [r ++ [id]] := by rw [hms x rest hx hxc, G_cons, hxf]
  have hg := grows_write a r id hcur
  refine ⟨hml.trans h.ml, ⟨?_, ?_⟩, ⟨?_, ?_⟩, ?_, fun hf => Bool.noConfusion (hr'.symm.trans hf),
    fun hf => Bool.noConfusion (hr'.symm.trans hf)⟩
  · intro g hg'
    rw [hG', List.mem_append, List.mem_singleton] at hg'
    rcases hg' with hg' | rfl
    · exact (h.cutOf.mono hg).pre g (by rw [hG]; exact List.mem_append_left _ hg')
    · exact ⟨r ++ [id], by rw [all_write]; exact List.mem_append_right _ (List.mem_singleton.mpr rfl),
        List.prefix_refl _⟩
  · rw [all_write_flatten a r id hcur, hG', show (G rest ++ [r ++ [id]]).flatten = (G ms).flatten ++ [id] by
      rw [hG]; simp]
    exact List.Sublist.append h.cutOf.sub (List.Sublist.refl _)
  · rw [hG] at htot
    rw [hG']
    simp only [List.flatten_append, List.flatten_cons, List.flatten_nil, List.length_append, List.append_nil,
      List.length_cons, List.length_nil] at htot ⊢
    omega
  · rw [hG']
    exact tok_last r _ (hG ▸ h.paid.tok)
  · intro _
    exact ⟨_, rest, r ++ [id], hms x rest hx hxc, hxc, rfl, by rw [← hxf], hrest⟩

/-- the restart path of a write with `minLen = 0` and an empty bucket: a new file, closed at once -/
theorem tinv_write_empty (h : TInv B M ms a t) (id : Nat) (r : List Nat) (hcur : a.cur = some r)
    (x : RecFile) (hxf : x.frames = []) (hxc : x.closed = true)
    (hr : t.recording = false) (hr' : t'.recording = false) (hav : t'.bucket.avail = t.bucket.avail)
    (hz : t.bucket.avail = 0) (hge : t.minLen ≤ t.bucket.avail) (hml : t'.minLen = t.minLen) :
    TInv B M (x :: ms) { done := a.done, cur := some (r ++ [id]) } t' := by
  have hnew : r ++ [id] ∈ RecAcc.all { done := a.done, cur := some (r ++ [id]) } := by
    rw [all_write]; exact List.mem_append_right _ (List.mem_singleton.mpr rfl)
  refine ⟨hml.trans h.ml, ?_, ?_, fun hf => Bool.noConfusion (hr'.symm.trans hf), ?_, fun _ _ _ => Or.inr (hav.trans hz)⟩
  · rw [G_cons, hxf]; exact (h.cutOf.mono (grows_write a r id hcur)).snoc_nil hnew
  · rw [G_cons, hxf, hav]; exact h.paid.snoc_nil (h.ml ▸ hge)
  · intro _ f hf
    rcases List.mem_cons.mp hf with rfl | hf
    · exact hxc
    · exact h.idle hr f hf

end steps

variable {F : FloatOps}

/-- `TInv` of a pipeline state: its motion files and its throttle state against the upstream recordings `a`, with
the bucket size and the minimum length of the configuration -/
def TI (c : PipeCfg) (p : Pipe F) (a : RecAcc) : Prop :=
  TInv c.bucketFrames c.minLenFrames (mot p.files) a p.thr

theorem ti_congr (c : PipeCfg) (p q : Pipe F) (a : RecAcc) (hf : mot q.files = mot p.files)
    (ht : q.thr = p.thr) (h : TI c p a) : TI c q a := by
  unfold TI at *
  rw [hf, ht]; exact h

theorem mot_updOpen_head (fs : List RecFile) (u : RecFile → RecFile) (hu : ∀ x, (u x).kind = x.kind) :
    ∀ x rest, mot fs = x :: rest → x.closed = false → mot (Pipe.updOpen fs .motion u) = u x :: rest := by
  intro x rest hx hxc
  have hk : x.kind = .motion := mot_kind (by rw [hx]; exact List.mem_cons_self ..)
  rw [updOpen_mot_motion fs u hu, hx, PipeC17.updOpen_head_open_k .motion x rest u hk hxc]

theorem write_open (m : M12s) (a : RecAcc) (id : Nat) (ok : Bool) (hm : m.mo = a.cur.isSome)
    (hf : (M12s.obs m (.call .motion (.write id) ok)).fails = []) : ∃ r, a.cur = some r := by
  have h : m.mo = true := ((C12Spec.obs_fails m _).mp hf).2
  exact Option.isSome_iff_exists.mp (hm ▸ h)

/-- One observation changes the file list by at most one file operation, applied to a state that agrees
with `p` on files and detector.  A motion file is opened only by the upstream `StartRecording` itself, with the
detector's threshold — or, only with `minLenFrames = 0`, opened and closed at once by the restart path of a
write. -/
inductive OneOp (c : PipeCfg) (p : Pipe F) (o : Obs) : Pipe F → Prop
  | same (q : Pipe F) (hf : q.files = p.files) (hd : q.det = p.det) : OneOp c p o q
  | start (q : Pipe F) (k : FileKind) (t : Nat) (hf : q.files = p.files) (hd : q.det = p.det)
      (hk : k = .motion → o = .call .motion .start true ∧ t = p.det.tempThresh) :
      OneOp c p o (Pipe.startFile c q k t)
  | write (q : Pipe F) (k : FileKind) (id : Nat) (hf : q.files = p.files) (hd : q.det = p.det) :
      OneOp c p o (Pipe.writeFile q k id)
  | stop (q : Pipe F) (k : FileKind) (hf : q.files = p.files) (hd : q.det = p.det) :
      OneOp c p o (Pipe.stopFile q k)
  | empty (q : Pipe F) (hf : q.files = p.files) (hd : q.det = p.det) (hM : c.minLenFrames = 0) :
      OneOp c p o (Pipe.stopFile (Pipe.startFile c q .motion q.threshOfStart) .motion)

/-- an upstream start: forwarded when `minLen` tokens are in hand (no token is taken), suppressed otherwise -/
theorem ti_start (c : PipeCfg) (hthr : c.throttle = true) (p : Pipe F) (a : RecAcc) (hc : a.cur = none)
    (h : TI c p a) :
    TI c (Pipe.motionCall c p .start) (a.obs (.call .motion .start true)) ∧
    OneOp c p (.call .motion .start true) (Pipe.motionCall c p .start) := by
  have ha := adjust0_avail p.thr.bucket
  rw [mc_start c hthr, acc_start, TState.step_start, ha]
  by_cases hge : p.thr.minLen ≤ p.thr.bucket.avail
  · rw [if_pos hge]
    refine ⟨?_, .start _ .motion _ rfl rfl (fun _ => ⟨rfl, rfl⟩)⟩
    show TInv _ _ (mot (_ :: p.files)) _ _
    rw [mot_cons_motion _ _ rfl]
    exact tinv_start_yes h hc _ rfl rfl rfl ha rfl hge
  · rw [if_neg hge, tinv_idle_of_none h hc]
    exact ⟨tinv_idle h (grows_start a hc) (tinv_idle_of_none h hc) rfl ha rfl
      (fun _ _ => Or.inl (h.ml ▸ Nat.not_le.mp hge)), .same _ rfl rfl⟩

/-- a write: forwarded for a token; the file is cut when the bucket is found empty; dropped while the throttle
is idle — where, only with `minLen = 0`, the restart path opens a base file and cuts it at once -/
theorem ti_write (c : PipeCfg) (hthr : c.throttle = true) (p : Pipe F) (a : RecAcc) (id : Nat) (r : List Nat)
    (hcur : a.cur = some r) (h : TI c p a) :
    TI c (Pipe.motionCall c p (.write id)) (a.obs (.call .motion (.write id) true)) ∧
    OneOp c p (.call .motion (.write id) true) (Pipe.motionCall c p (.write id)) := by
  have ha := adjust0_avail p.thr.bucket
  rw [mc_write c hthr, acc_write_some a id true r hcur]
  cases hr : p.thr.recording with
  | true =>
    obtain ⟨t1, t2⟩ := take1_zero p.thr.bucket
    rw [TState.step_write_rec _ _ _ _ _ _ hr, t1]
    by_cases hz : p.thr.bucket.avail = 0
    · rw [if_pos hz, if_neg (Nat.lt_irrefl 0)]
      refine ⟨?_, .stop _ .motion rfl rfl⟩
      show TInv _ _ (mot (Pipe.updOpen p.files .motion _)) _
        { p.thr with bucket := (p.thr.bucket.take1 0).1, recording := false }
      exact tinv_close h (grows_write a r id hcur) _ hr
        (mot_updOpen_head p.files (fun f => { f with closed := true }) (fun _ => rfl)) rfl
        (by rw [t2, hz]) rfl (fun _ _ => Or.inr hz)
    · rw [if_neg hz, if_pos Nat.one_pos]
      refine ⟨?_, .write _ .motion id rfl rfl⟩
      show TInv _ _ (mot (Pipe.updOpen p.files .motion _)) _ { p.thr with bucket := (p.thr.bucket.take1 0).1 }
      exact tinv_write_fwd h id r hcur _ hr
        (mot_updOpen_head p.files (fun f => { f with frames := f.frames ++ [id] }) (fun _ => rfl)) hr
        (by rw [t2]; omega) rfl
  | false =>
    rw [TState.step_write_idle _ _ _ _ _ _ hr, ha]
    by_cases hlt : p.thr.bucket.avail < p.thr.minLen
    · rw [if_neg (Nat.not_le.mpr hlt)]
      exact ⟨tinv_idle h (grows_write a r id hcur) hr hr ha rfl (fun _ _ => h.cut hr r hcur), .same _ rfl rfl⟩
    · -- upstream records, the throttle does not: by `TInv.cut` the bucket is empty, so `minLen = 0`
      have hM := h.ml
      have hz : p.thr.bucket.avail = 0 := by
        rcases h.cut hr r hcur with h1 | h1
        · omega
        · exact h1
      obtain ⟨t1, t2⟩ := take1_zero (p.thr.bucket.adjust 0)
      rw [if_pos (Nat.not_lt.mp hlt), if_pos rfl, t1, ha, if_pos hz, if_neg (Nat.lt_irrefl 0)]
      refine ⟨?_, .empty _ rfl rfl (by omega)⟩
      show TInv _ _ (mot (_ :: p.files)) _ { p.thr with bucket := ((p.thr.bucket.adjust 0).take1 0).1 }
      rw [mot_cons_motion _ _ rfl]
      exact tinv_write_empty h id r hcur _ rfl rfl hr hr
        (by rw [t2, ha, hz]) hz (by omega) rfl

theorem ti_stop (c : PipeCfg) (hthr : c.throttle = true) (p : Pipe F) (a : RecAcc) (h : TI c p a) :
    TI c (Pipe.motionCall c p .stop) (a.obs (.call .motion .stop true)) ∧
    OneOp c p (.call .motion .stop true) (Pipe.motionCall c p .stop) := by
  rw [mc_stop c hthr, TState.step_stop, acc_stop]
  cases hr : p.thr.recording with
  | true =>
    rw [if_pos rfl]
    refine ⟨?_, .stop _ .motion rfl rfl⟩
    show TInv _ _ (mot (Pipe.updOpen p.files .motion _)) _ _
    exact tinv_close h (grows_stop a) _ hr
      (mot_updOpen_head p.files (fun f => { f with closed := true }) (fun _ => rfl)) rfl rfl rfl
      (fun _ hc => nomatch hc)
  | false =>
    rw [if_neg Bool.false_ne_true]
    exact ⟨tinv_idle h (grows_stop a) hr hr rfl rfl (fun _ hc => nomatch hc), .same _ rfl rfl⟩

/-- a call on the continuous or the test sink: its file operation, invisible to the motion files -/
theorem ti_other (c : PipeCfg) (p : Pipe F) (a : RecAcc) (s : Sink) (hs : s ≠ .motion) (cl : Call) (ok : Bool)
    (h : TI c p a) :
    TI c (Pipe.applyObs c p (.call s cl ok)) (a.obs (.call s cl ok)) ∧
    OneOp c p (.call s cl ok) (Pipe.applyObs c p (.call s cl ok)) := by
  have hk : PipeC17.kindOf s ≠ .motion := fun e => hs (PipeC17.kindOf_inj (s := .motion) e)
  have hq : accQuiet (.call s cl ok) = true := by
    cases s with
    | motion => exact absurd rfl hs
    | const | test => cases cl <;> rfl
  rw [acc_quiet a _ hq, applyObs_other c p s hs]
  cases cl with
  | can => exact ⟨h, .same _ rfl rfl⟩
  | start =>
    cases ok with
    | false => exact ⟨h, .same _ rfl rfl⟩
    | true => exact ⟨ti_congr c p _ a (mot_cons_other _ _ hk) rfl h, .start p _ _ rfl rfl (fun hm => absurd hm hk)⟩
  | write id =>
    exact ⟨ti_congr c p _ a (updOpen_mot_other p.files _ _ hk (fun _ => rfl)) rfl h, .write p _ id rfl rfl⟩
  | stop =>
    exact ⟨ti_congr c p _ a (updOpen_mot_other p.files _ _ hk (fun _ => rfl)) rfl h, .stop p _ rfl rfl⟩

/-- **one observation** keeps the invariant, and is at most one file operation -/
theorem ti_obs (c : PipeCfg) (hthr : c.throttle = true) (p : Pipe F) (a : RecAcc) (m : M12s) (o : Obs)
    (hcl : clean o = true) (hm : m.mo = a.cur.isSome) (hf : (M12s.obs m o).fails = [])
    (h : TI c p a) : TI c (Pipe.applyObs c p o) (a.obs o) ∧ OneOp c p o (Pipe.applyObs c p o) := by
  cases o with
  | call s cl ok =>
    cases s with
    | motion =>
      cases ok with
      | false =>
        cases cl with
        | can | start => exact ⟨h, .same _ rfl rfl⟩
        | write id | stop => exact absurd hcl (by simp [clean])
      | true =>
        cases cl with
        | can =>
          show TI c (Pipe.motionCall c p .can) a ∧ OneOp c p _ (Pipe.motionCall c p .can)
          rw [mc_can c hthr]; exact ⟨h, .same _ rfl rfl⟩
        | start => exact ti_start c hthr p a (start_not_open_k .motion m ⟨a.done, a.cur⟩ hm hf) h
        | write id =>
          obtain ⟨r, hcur⟩ := write_open m a id true hm hf
          exact ti_write c hthr p a id r hcur h
        | stop => exact ti_stop c hthr p a h
    | const => exact ti_other c p a .const (fun h => nomatch h) cl ok h
    | test => exact ti_other c p a .test (fun h => nomatch h) cl ok h
  | _ => exact ⟨h, .same _ rfl rfl⟩

/-- **an observation list** keeps the invariant; any relation between the pipeline before, the list and the
pipeline after that holds for the empty list and across one file operation (`OneOp`) holds too -/
theorem ti_fold (c : PipeCfg) (hthr : c.throttle = true) (R : Pipe F → List Obs → Pipe F → Prop)
    (hnil : ∀ p, R p [] p)
    (hcons : ∀ p o q os r, OneOp c p o q → R q os r → R p (o :: os) r) :
    ∀ (os : List Obs) (p : Pipe F) (a : RecAcc) (m : M12s),
    os.all clean = true → m.mo = a.cur.isSome → (os.foldl M12s.obs m).fails = [] → TI c p a →
    TI c (os.foldl (Pipe.applyObs c) p) (os.foldl RecAcc.obs a) ∧ R p os (os.foldl (Pipe.applyObs c) p) := by
  intro os
  induction os with
  | nil => intro p a m _ _ _ h; exact ⟨h, hnil p⟩
  | cons o os ih =>
    intro p a m hcl hm hf h
    simp only [List.all_cons, Bool.and_eq_true] at hcl
    simp only [List.foldl_cons] at hf ⊢
    obtain ⟨h1, h2⟩ := ti_obs c hthr p a m o hcl.1 hm (m12s_fold_fails os _ hf) h
    obtain ⟨h3, h4⟩ := ih _ _ (M12s.obs m o) hcl.2 (mo_obs m a o hm) hf h1
    exact ⟨h3, hcons _ _ _ _ _ h2 h4⟩

theorem tinv_init (B M : Nat) : TInv B M [] {} (TState.init B 1 M) :=
  ⟨rfl, ⟨fun _ hg => (nomatch hg), List.Sublist.refl _⟩, ⟨Nat.zero_add _, fun _ hk => (nomatch hk)⟩,
    fun hf => Bool.noConfusion hf, fun _ _ hf => (nomatch hf), fun _ _ hr => (nomatch hr)⟩

end TR.PipeThr
