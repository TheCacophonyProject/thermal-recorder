import Proofs.FSC10

/-!
# Proofs.C10Gen — helper lemmas for C10 over every history of lives (kill, restart, clean-up, run again)

Start-up clean-up of a crash state whose `.cptv` ids are all among the ids started so far
(`Good (· ∈ used)`, which `valid_prefix_good` gives at every crash point) re-establishes the boundary invariant
`Boundary [] used` for the next life.

`.cptv` entries are never lost: a system call of the protocol that leaves the `bad` flag down keeps
every `.cptv` entry (same status).
-/
namespace TR.C10Gen
open TR.FS TR.C10

/-- start-up clean-up of a crash state whose `.cptv` ids are all in `used` gives a boundary state with no open
recording (clean-up keeps the `sealed` and `bad` fields: `bad` is down by `Good`, `sealed` is not part of
the invariant — `stop` re-seals its own `T` before it renames) -/
theorem boundary_cleanup {used : List Nat} {d : Dir} (h : Good (fun k => k ∈ used) d) :
    Boundary [] used d.cleanup := by
  refine ⟨List.nodup_nil, fun _ hk => absurd hk List.not_mem_nil, h.1, fun p hp hk => ?_⟩
  simp only [Dir.cleanup, List.mem_filter] at hp
  exact ⟨(h.2 p hp.1 hk).1, (h.2 p hp.1 hk).2, List.not_mem_nil⟩

theorem mem_cleanup {d : Dir} {p : Name × Status} (hp : p ∈ d.files) (hk : p.1.kind = Kind.F) :
    p ∈ d.cleanup.files := by
  simp only [Dir.cleanup, List.mem_filter, beq_iff_eq]
  exact ⟨hp, hk⟩

/-- system calls that do not remove or truncate a `.cptv` name, except possibly as the target of a rename
(and the monitor raises `bad` when a rename targets an existing `.cptv` name) -/
def NoFLoss : Sys → Prop
  | .creat n => n.kind ≠ Kind.F
  | .write _ => True
  | .close _ => True
  | .unlink n => n.kind ≠ Kind.F
  | .rename a _ => a.kind ≠ Kind.F

theorem steps_noFLoss (op : Op) : ∀ s ∈ op.steps, NoFLoss s := by
  intro s hs
  cases op <;>
    simp only [Op.steps, startSteps, writeSteps, stopSteps, discardSteps, startFailSteps, List.mem_cons,
      List.not_mem_nil, or_false] at hs <;>
    rcases hs with rfl | rfl | rfl | rfl | rfl | rfl | rfl | rfl <;> simp [NoFLoss]

theorem flat_noFLoss (ops : List Op) : ∀ s ∈ ops.flatMap Op.steps, NoFLoss s := by
  intro s hs
  obtain ⟨op, _, hop⟩ := List.mem_flatMap.1 hs
  exact steps_noFLoss op s hop

theorem mem_remove {d : Dir} {p : Name × Status} {n : Name} (hp : p ∈ d.files) (hn : n ≠ p.1) :
    p ∈ (d.remove n).files := by
  simp only [Dir.remove, List.mem_filter, bne_iff_ne, ne_eq]
  exact ⟨hp, fun h => hn h.symm⟩

theorem mem_put {d : Dir} {p : Name × Status} {n : Name} {st : Status} (hp : p ∈ d.files) (hn : n ≠ p.1) :
    p ∈ (d.put n st).files := by
  simp only [Dir.put]
  exact List.mem_cons_of_mem _ (mem_remove hp hn)

theorem step_keeps {d : Dir} {s : Sys} {p : Name × Status} (hs : NoFLoss s) (hbad : (d.step s).bad = false)
    (hp : p ∈ d.files) (hk : p.1.kind = Kind.F) : p ∈ (d.step s).files := by
  cases s with
  | creat n =>
    have hn : n ≠ p.1 := fun h => hs (h ▸ hk)
    have hF : (n.kind == Kind.F) = false := by simpa using (show n.kind ≠ Kind.F from hs)
    simp only [Dir.step, hF, Bool.false_eq_true, if_false]
    split
    · exact mem_put (d := { d with sealed := _ }) hp hn
    · exact mem_put hp hn
  | write n =>
    simp only [Dir.step]
    split <;> split <;> exact hp
  | close n =>
    simp only [Dir.step]
    split <;> exact hp
  | unlink n => exact mem_remove hp fun h => hs (h ▸ hk)
  | rename a b =>
    have ha : a ≠ p.1 := fun h => hs (h ▸ hk)
    have hb : b ≠ p.1 := by
      intro h
      have hbF : (b.kind == Kind.F) = true := by simp [h, hk]
      have hhas : d.has b = true := by
        simp only [Dir.has, List.any_eq_true, beq_iff_eq]
        exact ⟨p, hp, h.symm⟩
      simp [Dir.step, Dir.put, Dir.remove, hbF, hhas] at hbad
    simp only [Dir.step]
    split
    · exact mem_put (mem_remove (d := { d with bad := true }) hp ha) hb
    · exact mem_put (mem_remove hp ha) hb

theorem run_keeps {u : List Sys} : ∀ {d : Dir} {p : Name × Status}, (∀ s ∈ u, NoFLoss s) →
    (∀ v, v <+: u → (d.run v).bad = false) → p ∈ d.files → p.1.kind = Kind.F → p ∈ (d.run u).files := by
  induction u with
  | nil => intro d p _ _ hp _; exact hp
  | cons a u ih =>
    intro d p hs hbad hp hk
    refine ih (d := d.step a) (fun s h => hs s (List.mem_cons_of_mem _ h)) (fun v hv => ?_) ?_ hk
    · exact hbad (a :: v) ((List.prefix_cons_inj a).2 hv)
    · exact step_keeps (hs a (List.mem_cons_self ..)) (hbad [a] (by simp)) hp hk

end TR.C10Gen
