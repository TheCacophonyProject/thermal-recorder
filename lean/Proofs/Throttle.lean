import Proofs.ThrStep
import Proofs.Bucket
/-!
# Proofs.Throttle — C05: the window bound for every request/clock schedule

A forwarded frame takes a token, and every token is paid for out of the bucket's potential `E` (`Proofs.Bucket`):
`Spent`, for one request `step_bucket`.  As `E ≤ cap + 1` and `E` grows by at most `q` a tick, a window of `d` ticks
forwards at most `cap + 1 + q * d` frames (`windows_ok`, by induction over the schedule from any well-formed state).
-/
namespace TR
open Bucket

/-- tick at which a request is processed (`last` for a stop, which reads no clock) -/
def TReq.tickAt (r : TReq) (last : Nat) : Nat := (r.tick?).getD last

/-- ticks never decrease along the request list -/
def Mono : Nat → List TReq → Prop
  | _, [] => True
  | last, r :: rest => last ≤ r.tickAt last ∧ Mono (r.tickAt last) rest

theorem mono_weaken (t t' : Nat) (reqs : List TReq) (h : Mono t' reqs) (hle : t ≤ t') : Mono t reqs := by
  induction reqs generalizing t t' with
  | nil => trivial
  | cons r rest ih =>
    cases ht : r.tick? with
    | some tk =>
      simp only [Mono, TReq.tickAt, ht, Option.getD_some] at h ⊢
      exact ⟨Nat.le_trans hle h.1, h.2⟩
    | none =>
      simp only [Mono, TReq.tickAt, ht, Option.getD_none] at h ⊢
      exact ⟨Nat.le_refl _, ih t t' h.2 hle⟩

/-- from bucket `b` at tick `t`, handing out `n` tokens leads to `b'`: the potential pays for them -/
structure Spent (b' b : Bucket) (t n : Nat) : Prop where
  wf : b'.WF t
  paid : b'.E t + n ≤ b.E t
  cap : b'.cap = b.cap
  q : b'.q = b.q

theorem Spent.refl {b : Bucket} {t : Nat} (h : b.WF t) : Spent b b t 0 := ⟨h, Nat.le_refl _, rfl, rfl⟩

theorem spent_adjust {b : Bucket} {t : Nat} (h : b.WF t) : Spent (b.adjust t) b t 0 :=
  ⟨(adjust_E b t h).2, Nat.le_of_eq (adjust_E b t h).1, (adjust_cap b t).1, (adjust_cap b t).2⟩

theorem spent_take1 {b : Bucket} {t : Nat} (h : b.WF t) : Spent (b.take1 t).1 b t (b.take1 t).2 :=
  ⟨(take1_E b t h).2.1, Nat.le_of_eq (take1_E b t h).1, (take1_cap b t).1, (take1_cap b t).2⟩

theorem Spent.trans {b'' b' b : Bucket} {t n m : Nat} (h' : Spent b'' b' t n) (h : Spent b' b t m) :
    Spent b'' b t (n + m) :=
  ⟨h'.wf, by have := h'.paid; have := h.paid; omega, h'.cap.trans h.cap, h'.q.trans h.q⟩

theorem Spent.mono {b' b : Bucket} {t n m : Nat} (h : Spent b' b t n) (hm : m ≤ n) : Spent b' b t m :=
  { h with paid := by have := h.paid; omega }

theorem step_bucket (s : TState) (r : TReq) (last : Nat) (h : s.bucket.WF (r.tickAt last)) :
    Spent (s.step r).1.bucket s.bucket (r.tickAt last) (fwdCount (s.step r).2) := by
  cases r with
  | start tk tag ok =>
    rw [TState.step_start]
    split
    · split <;> exact spent_adjust h
    · split <;> exact spent_adjust h
  | stop ok => rw [TState.step_stop]; split <;> exact .refl h
  | write tk id sok wok pok =>
    have ha : Spent (s.bucket.adjust tk) s.bucket tk 0 := spent_adjust h
    cases hr : s.recording
    · rw [TState.step_write_idle _ _ _ _ _ _ hr]
      have ht := (spent_take1 ha.wf).trans ha
      split
      · split
        · split
          · next hp => exact ht.mono hp
          · exact ht.mono (Nat.zero_le _)
        · exact ha
      · exact ha
    · rw [TState.step_write_rec _ _ _ _ _ _ hr]
      split
      · next hp => exact (spent_take1 h).mono hp
      · exact (spent_take1 h).mono (Nat.zero_le _)

/-- **C05, from any state.**  Along the trace of any schedule from a well-formed bucket at tick `tcur`: a
window that began at a tick `t0 ≤ tcur` and has `acc` frames so far keeps its bound if `acc` plus the
potential is within it now (every frame is paid for out of `E`, which grows by at most `q` a tick); and every
window that begins later keeps its bound because the potential is at most `cap + 1` when it begins. -/
theorem windows_ok (cap q : Nat) : ∀ (reqs : List TReq) (u : UState) (tcur : Nat),
    u.t.bucket.cap = cap → u.t.bucket.q = q → u.t.bucket.WF tcur → Mono tcur reqs →
    (∀ t0 acc, t0 ≤ tcur → acc + u.t.bucket.E tcur ≤ cap + 1 + q * (tcur - t0) →
      windowsFrom cap q t0 acc (tickFwd tcur (utrace u reqs)) = true) ∧
    allWindows cap q (tickFwd tcur (utrace u reqs)) = true := by
  intro reqs
  induction reqs with
  | nil => intro u tcur _ _ _ _; exact ⟨fun _ _ _ _ => rfl, rfl⟩
  | cons r rest ih =>
    intro u tcur hcap hq hwf ⟨hle, hmono⟩
    rcases ustep_cases u r with hnone | ⟨up, hsome, _⟩
    · simp only [utrace, hnone]
      exact ih u tcur hcap hq hwf (mono_weaken _ _ _ hmono hle)
    · obtain ⟨hwf', hE, hcap', hq'⟩ := step_bucket u.t r tcur (wf_mono _ _ _ hwf hle)
      obtain ⟨ihw, iha⟩ := ih ⟨(u.t.step r).1, up⟩ _ (hcap'.trans hcap) (hq'.trans hq) hwf' hmono
      dsimp only at ihw
      -- a window within its bound when this request arrives is still within it after the request
      have hw : ∀ t0 acc, t0 ≤ r.tickAt tcur →
          acc + u.t.bucket.E (r.tickAt tcur) ≤ cap + 1 + q * (r.tickAt tcur - t0) →
          windowsFrom cap q t0 acc ((r.tickAt tcur, fwdCount (u.t.step r).2) ::
            tickFwd (r.tickAt tcur) (utrace ⟨(u.t.step r).1, up⟩ rest)) = true := by
        intro t0 acc h0 hb
        simp only [windowsFrom, Bool.and_eq_true, decide_eq_true_eq]
        exact ⟨by omega, ihw t0 _ h0 (by omega)⟩
      simp only [utrace, hsome, tickFwd, allWindows, Bool.and_eq_true]
      refine ⟨fun t0 acc h0 hb => hw t0 acc (Nat.le_trans h0 hle) ?_, hw _ 0 (Nat.le_refl _) ?_, iha⟩
      · have hE' := E_mono u.t.bucket tcur (r.tickAt tcur) hwf hle
        have : q * (tcur - t0) + (r.tickAt tcur - tcur) * q = q * (r.tickAt tcur - t0) := by
          rw [Nat.mul_comm _ q, ← Nat.mul_add, Nat.add_comm, Nat.sub_add_sub_cancel hle h0]
        rw [hq] at hE'
        omega
      · have := E_le u.t.bucket (r.tickAt tcur)
        omega

end TR
