import Proofs.ProcStep
/-!
# Proofs.ProcFaults — a call fails only where the event's fault record says so

`Faults.allows f k cl` is the outcome the fault record dictates for call `cl` on sink `k`; `step_failsAs` says that
every failed call observed in a step is one the record does not allow.  The statements "no write fault is
dictated, none is observed", "no sink fault under clean events", "a stop fails only if told to" are its instances.
-/
namespace TR
open PState

/-- does the fault record let this call succeed?  (a motion-sink write: no write of this event is made to fail) -/
def Faults.allows (f : Faults) : Sink → Call → Bool
  | .motion, .can => f.can
  | .motion, .start => f.mStart
  | .motion, .write _ => decide (f.mWriteFail = 0)
  | .motion, .stop => f.mStop
  | .const, .can => true
  | .const, .start => f.cStart
  | .const, .write _ => f.cWrite
  | .const, .stop => f.cStop
  | .test, .can => true
  | .test, .start => f.tStart
  | .test, .write _ => f.tWrite
  | .test, .stop => f.tStop

/-- no call fails unless the fault record dictates it -/
def failsAs (f : Faults) (os : List Obs) : Bool :=
  os.all fun o => match o with
    | .call k cl false => !f.allows k cl
    | _ => true

theorem failsAs_append (f : Faults) (a b : List Obs) : failsAs f (a ++ b) = (failsAs f a && failsAs f b) :=
  List.all_append

theorem failsAs_wObs (f : Faults) (id k : Nat) : failsAs f [wObs id k f] = true := by
  by_cases h : k + 1 = f.mWriteFail
  · have h0 : f.mWriteFail ≠ 0 := by omega
    simp [failsAs, Faults.allows, wObs, h, h0]
  · simp [failsAs, wObs, h]

theorem failsAs_allowed (f : Faults) (k : Sink) (cl : Call) : failsAs f [Obs.call k cl (f.allows k cl)] = true := by
  cases h : f.allows k cl <;> simp [failsAs, h]

theorem failsAs_pStop (f : Faults) (s : PState) : failsAs f (pStop f s).2 = true := by
  rw [pStop_eq]
  split
  · exact failsAs_allowed f .motion .stop
  · rfl

theorem failsAs_ite (f : Faults) (b : Bool) (l : List Obs) (h : failsAs f l = true) :
    failsAs f (if b then l else []) = true := by
  cases b
  · rfl
  · exact h

theorem failsAs_cycleObs (f : Faults) (k : Sink) (id : Nat) (a b full : Bool) :
    failsAs f (cycleObs k id a b (f.allows k .start) (f.allows k (.write id)) full (f.allows k .stop)) = true := by
  unfold cycleObs
  rw [failsAs_append, failsAs_append, failsAs_ite _ _ _ (failsAs_allowed ..), failsAs_ite _ _ _ (failsAs_allowed ..),
    failsAs_ite _ _ _ (failsAs_allowed ..)]
  rfl

theorem failsAs_process (c : PCfg) (s : PState) (motion : Bool) (f : Faults) :
    failsAs f (process c s motion f).2 = true := by
  rcases process_cases c s motion f with ⟨_, h⟩ | ⟨_, _, q, hq, h⟩ | ⟨_, _, _, h⟩
  · rw [h, andThen_snd, failsAs_append, failsAs_pStop, failsAs_append, failsAs_wObs]
    cases motion <;> rfl
  · rw [h]
    cases hq with
    | still => rfl
    | quiet _ => rfl
    | disk _ _ hc => exact hc ▸ failsAs_allowed f .motion .can
    | file _ _ _ hm => exact hm ▸ failsAs_allowed f .motion .start
  · rw [h, andThen_snd, failsAs_append, failsAs_pStop, failsAs_append, failsAs_append, failsAs_wObs]
    have : failsAs f (preRun s f).1 = true := by
      refine List.all_eq_true.2 fun o ho => ?_
      rcases mem_preRun ho with ⟨_, rfl⟩ | ⟨_, _, id, _, ok, rfl, hok⟩
      · rfl
      · cases ok
        · simpa [Faults.allows] using hok rfl
        · rfl
    rw [this]; rfl

theorem step_failsAs (c : PCfg) (s : PState) (e : Ev) : failsAs e.faults (PState.step c s e).2 = true := by
  cases e with
  | frame m f =>
    show failsAs f (processFrame c s m f).2 = true
    rw [processFrame_parts, failsAs_append, failsAs_append, failsAs_process]
    exact Bool.and_eq_true_iff.2 ⟨failsAs_cycleObs f .const .., failsAs_cycleObs f .test ..⟩
  | bad f =>
    rw [step_bad]
    have h1 := failsAs_allowed f .motion .stop
    have h2 := failsAs_ite f c.constOn _ (failsAs_allowed f .const .stop)
    cases s.isRec
    · exact h2
    · exact (failsAs_append f [Obs.re, _] _).trans (Bool.and_eq_true_iff.2 ⟨h1, h2⟩)
  | reset f =>
    rw [step_reset]
    cases s.isRec
    · rfl
    · exact failsAs_allowed f .motion .stop
  | testReq => rfl

theorem step_fail_dictated (c : PCfg) (s : PState) (e : Ev) (k : Sink) (cl : Call)
    (h : Obs.call k cl false ∈ (PState.step c s e).2) : e.faults.allows k cl = false := by
  simpa using List.all_eq_true.1 (step_failsAs c s e) _ h

end TR
