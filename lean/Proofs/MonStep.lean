import TR.ProcMon
import Proofs.Scan
/-!
# Proofs.MonStep — the step functions of the monitors `M4`, `M3` and `M17` as equations

Used from both sides: by the invariants that tie a monitor to the model (`Proofs.ProcC..`) and by the
equivalences of a monitor with its list-level rule (`Proofs.C..Spec`).  The step equations of the other processor
monitors stand elsewhere: of `M12` in `Proofs.ProcC01` (`P01.step_eq`, `P01.mpre`), of `M13` in `Proofs.C13Spec`
(`m13_open`, `m13_fails`), of `M12s` in `Proofs.C12Spec` (`obs_fails`, `obs_get`).  Also what the monitors' tests on an
observation list (`hasStop`, `hasStartOk`, …) say about membership, and — because both sides speak of them — the
one-step notions of the C04 rule (`Step.startsRec`, `Step.endsRec`, `C04Spec.nextOpen`, `resetsRun`, `nextRun`,
`attemptB`, `stepOk`); the rule over a whole trace, `StartRule`, is in `Proofs.C04Spec`.
-/
namespace TR

theorem hasStartOk_iff (obs : List Obs) :
    hasStartOk obs = true ↔ Obs.call .motion .start true ∈ obs := by
  simp only [hasStartOk, List.any_eq_true]
  constructor
  · rintro ⟨o, hm, h⟩
    split at h
    · exact hm
    · cases h
  · intro hm; exact ⟨_, hm, rfl⟩

theorem hasStartAny_iff (obs : List Obs) :
    hasStartAny obs = true ↔ ∃ ok, Obs.call .motion .start ok ∈ obs := by
  simp only [hasStartAny, List.any_eq_true]
  constructor
  · rintro ⟨o, hm, h⟩
    split at h
    · exact ⟨_, hm⟩
    · cases h
  · rintro ⟨ok, hm⟩; exact ⟨_, hm, rfl⟩

theorem hasCan_iff (obs : List Obs) :
    hasCan obs = true ↔ ∃ ok, Obs.call .motion .can ok ∈ obs := by
  simp only [hasCan, List.any_eq_true]
  constructor
  · rintro ⟨o, hm, h⟩
    split at h
    · exact ⟨_, hm⟩
    · cases h
  · rintro ⟨ok, hm⟩; exact ⟨_, hm, rfl⟩

theorem hasStop_iff (obs : List Obs) :
    hasStop obs = true ↔ ∃ ok, Obs.call .motion .stop ok ∈ obs := by
  simp only [hasStop, List.any_eq_true]
  constructor
  · rintro ⟨o, hm, h⟩
    split at h
    · exact ⟨_, hm⟩
    · cases h
  · rintro ⟨ok, hm⟩; exact ⟨_, hm, rfl⟩

/-- the step begins a motion recording: a frame event whose observations contain a successful
`StartRecording` on the motion sink -/
def Step.startsRec (s : Step) : Bool := s.ev.isFrame && hasStartOk s.obs

/-- the step ends a motion recording (if one is open or begins at it): a frame event whose observations
contain a `StopRecording` on the motion sink, a rejected frame, or a camera reset.  A test-recording
request never does. -/
def Step.endsRec (s : Step) : Bool :=
  match s.ev with
  | .frame _ _ => hasStop s.obs
  | .bad _ => true
  | .reset _ => true
  | .testReq => false

namespace C04Spec

/-- the effect of one step on "a motion recording is open" -/
def nextOpen (o : Bool) (s : Step) : Bool := (o || s.startsRec) && !s.endsRec

/-- the step ends the current run of motion frames: it is a frame without motion, or it ends a recording
(one that was open, `o`, or that begins at this very step) -/
def resetsRun (o : Bool) (s : Step) : Bool :=
  (s.ev.isFrame && !s.ev.motion) || ((o || s.startsRec) && s.endsRec)

/-- the effect of one step on the length of the current run of motion frames: back to 0 if the step ends the
run, one more if it is a frame with motion, unchanged otherwise (test request; bad frame or reset while no
recording is open) -/
def nextRun (o : Bool) (r : Nat) (s : Step) : Nat :=
  if resetsRun o s then 0 else if s.ev.motion then r + 1 else r

/-- a start attempt is due, given the flag and the run length before the step and the step's motion bit:
no recording is open, the frame shows motion and it is at least the `trig`-th motion frame in a row -/
def attemptB (trig : Nat) (o : Bool) (r : Nat) (motion : Bool) : Bool :=
  !o && motion && decide ((if motion then r + 1 else 0) ≥ trig)

/-- what the rule demands of one step, given the flag and the run length before it: the three clauses of
`StartRule`, decided -/
def stepOk (trig : Nat) (p : Bool × Nat) (s : Step) : Bool :=
  match s.ev with
  | .frame motion f =>
    let a := attemptB trig p.1 p.2 motion
    decide ((hasStartOk s.obs = true ↔ (a = true ∧ f.win = true ∧ f.can = true ∧ f.mStart = true)) ∧
      (hasCan s.obs = true → a = true ∧ f.win = true) ∧
      (hasStartAny s.obs = true → a = true ∧ f.win = true ∧ f.can = true))
  | _ => true

end C04Spec

theorem ite_nil_iff {ε : Type} {b : Bool} {l : List ε} (hl : l ≠ []) :
    (if b = true then l else []) = [] ↔ b = false := by
  cases b <;> simp [hl]

theorem ite_ne_nil {ε : Type} {c : Prop} [Decidable c] {a b : List ε} (ha : a ≠ []) (hb : b ≠ []) :
    (if c then a else b) ≠ [] := by
  split <;> assumption

/-- how monitors phrase "`x` without `y`" -/
theorem and_not_eq_false {x y : Bool} : (x && !y) = false ↔ (x = true → y = true) := by
  cases x <;> cases y <;> decide

theorem differ_eq_false {x y : Bool} : ((x && !y) = false ∧ (!x && y) = false) ↔ (x = true ↔ y = true) := by
  cases x <;> cases y <;> decide

namespace M4
open C04Spec

theorem step_open (trig : Nat) (m : M4) (s : Step) :
    (M4.step trig m s).openRec = nextOpen m.openRec s := by
  obtain ⟨ev, obs⟩ := s
  cases ev <;> simp [M4.step, nextOpen, Step.startsRec, Step.endsRec, Ev.isFrame]

theorem step_run (trig : Nat) (m : M4) (s : Step) :
    (M4.step trig m s).run = nextRun m.openRec m.run s := by
  obtain ⟨ev, obs⟩ := s
  cases ev with
  | frame motion f =>
    simp only [M4.step, nextRun, resetsRun, Step.startsRec, Step.endsRec, Ev.isFrame, Ev.motion,
      Bool.true_and]
    cases motion <;> simp
  | _ => simp [M4.step, nextRun, resetsRun, Step.startsRec, Step.endsRec, Ev.isFrame, Ev.motion]

theorem reason_ne_nil (motion o win can ge : Bool) :
    (if (!motion) = true then ["C04:start-without-motion"]
     else if o = true then ["C04:start-while-recording"]
     else if (!win) = true then ["C04:start-outside-window"]
     else if (!can) = true then ["C04:start-despite-disk-check"]
     else if (!ge) = true then ["C04:start-before-trigger-frames"]
     else ["C04:unexpected-start"]) ≠ ([] : List String) :=
  ite_ne_nil (List.cons_ne_nil _ _) <| ite_ne_nil (List.cons_ne_nil _ _) <|
    ite_ne_nil (List.cons_ne_nil _ _) <| ite_ne_nil (List.cons_ne_nil _ _) <|
    ite_ne_nil (List.cons_ne_nil _ _) (List.cons_ne_nil _ _)

theorem step_fails (trig : Nat) (m : M4) (s : Step) :
    (M4.step trig m s).fails = [] ↔ m.fails = [] ∧ stepOk trig (m.openRec, m.run) s = true := by
  obtain ⟨ev, obs⟩ := s
  cases ev with
  | frame motion f =>
    simp only [M4.step, stepOk, attemptB, List.append_eq_nil_iff]
    rw [ite_nil_iff (reason_ne_nil _ _ _ _ _), ite_singleton_nil, ite_singleton_nil, ite_singleton_nil,
      differ_eq_false, and_not_eq_false, and_not_eq_false, decide_eq_true_iff]
    simp only [Bool.and_eq_true, and_assoc]
  | _ => simp [M4.step, stepOk]

end M4

namespace M3

/-- the verdict of `M3.step` at a frame with counters `p`, `l` -/
def verdict (minF maxF p l : Nat) (stopped : Bool) : List String :=
  if decide (p ≥ min maxF (l - 1 + minF)) && !stopped then ["C03:ran-past-limit"]
  else if !decide (p ≥ min maxF (l - 1 + minF)) && stopped then ["C03:stopped-early"] else []

theorem verdict_nil (minF maxF p l : Nat) (stopped : Bool) :
    verdict minF maxF p l stopped = [] ↔ (stopped = true ↔ p ≥ min maxF (l - 1 + minF)) := by
  unfold verdict
  by_cases h : p ≥ min maxF (l - 1 + minF) <;> cases stopped <;> simp [h]

theorem step_testReq (minF maxF : Nat) (m : M3) (obs : List Obs)
    (hnf : Step.motionWriteFault ⟨.testReq, obs⟩ = false) : M3.step minF maxF m ⟨.testReq, obs⟩ = m := by
  simp only [M3.step, hnf, Bool.false_eq_true, if_false]

theorem step_bad (minF maxF : Nat) (m : M3) (f : Faults) (obs : List Obs)
    (hnf : Step.motionWriteFault ⟨.bad f, obs⟩ = false) :
    M3.step minF maxF m ⟨.bad f, obs⟩ = { m with openRec := false } := by
  simp only [M3.step, hnf, Bool.false_eq_true, if_false]

theorem step_reset (minF maxF : Nat) (m : M3) (f : Faults) (obs : List Obs)
    (hnf : Step.motionWriteFault ⟨.reset f, obs⟩ = false) :
    M3.step minF maxF m ⟨.reset f, obs⟩ = { m with openRec := false } := by
  simp only [M3.step, hnf, Bool.false_eq_true, if_false]

theorem step_frame_idle (minF maxF : Nat) (m : M3) (mo : Bool) (f : Faults) (obs : List Obs)
    (hnf : Step.motionWriteFault ⟨.frame mo f, obs⟩ = false) (hs : hasStartOk obs = false)
    (ho : m.openRec = false) : M3.step minF maxF m ⟨.frame mo f, obs⟩ = m := by
  simp only [M3.step, hnf, hs, ho, Bool.false_eq_true, if_false]

theorem step_frame_open (minF maxF : Nat) (m : M3) (mo : Bool) (f : Faults) (obs : List Obs)
    (hnf : Step.motionWriteFault ⟨.frame mo f, obs⟩ = false) (hs : hasStartOk obs = false)
    (ho : m.openRec = true) (ht : m.tainted = false) :
    M3.step minF maxF m ⟨.frame mo f, obs⟩ =
      { m with p := m.p + 1, l := if mo then m.p + 1 else m.l, openRec := !hasStop obs,
               fails := m.fails ++ verdict minF maxF (m.p + 1) (if mo then m.p + 1 else m.l) (hasStop obs) } := by
  simp only [M3.step, hnf, hs, ho, ht, Bool.false_eq_true, if_false, if_true, verdict]

/-- a trigger frame -/
theorem step_frame_start (minF maxF : Nat) (m : M3) (mo : Bool) (f : Faults) (obs : List Obs)
    (hnf : Step.motionWriteFault ⟨.frame mo f, obs⟩ = false) (hs : hasStartOk obs = true)
    (ht : m.tainted = false) :
    M3.step minF maxF m ⟨.frame mo f, obs⟩ =
      { m with p := 1, l := if mo then 1 else 0, openRec := !hasStop obs,
               fails := m.fails ++ verdict minF maxF 1 (if mo then 1 else 0) (hasStop obs) } := by
  simp only [M3.step, hnf, hs, ht, Bool.false_eq_true, if_false, if_true, verdict, Nat.zero_add]

/-- The last two as one: a frame written to a recording counts on from `p0`, `l0`, the monitor's counters, or
0, 0 at a trigger frame. -/
theorem step_frame_rec (minF maxF : Nat) (m : M3) (mo : Bool) (f : Faults) (obs : List Obs)
    (hnf : Step.motionWriteFault ⟨.frame mo f, obs⟩ = false) (ht : m.tainted = false) (p0 l0 : Nat)
    (h : hasStartOk obs = true ∧ p0 = 0 ∧ l0 = 0 ∨
         hasStartOk obs = false ∧ m.openRec = true ∧ p0 = m.p ∧ l0 = m.l) :
    M3.step minF maxF m ⟨.frame mo f, obs⟩ =
      { m with p := p0 + 1, l := if mo then p0 + 1 else l0, openRec := !hasStop obs,
               fails := m.fails ++ verdict minF maxF (p0 + 1) (if mo then p0 + 1 else l0) (hasStop obs) } := by
  rcases h with ⟨hs, rfl, rfl⟩ | ⟨hs, ho, rfl, rfl⟩
  · rw [step_frame_start minF maxF m mo f obs hnf hs ht]
  · rw [step_frame_open minF maxF m mo f obs hnf hs ho ht]

end M3

namespace M17

/-- the calls the monitor expects on the continuous sink for the next frame -/
def expC (c : PCfg) (m : M17) : List Obs :=
  if !c.constOn then [] else
    (if m.cPos = 0 then [Obs.call .const .start true] else []) ++
    [Obs.call .const (.write m.n) true] ++
    (if m.cPos + 1 > c.maxF then [Obs.call .const .stop true] else [])

def nextCPos (c : PCfg) (m : M17) : Nat :=
  if !c.constOn then 0 else if m.cPos + 1 > c.maxF then 0 else m.cPos + 1

def tStarting (m : M17) : Bool := m.pending && !m.tOpen
def tOpenNow (m : M17) : Bool := m.tOpen || tStarting m
def tCountNow (m : M17) : Nat := if tOpenNow m then m.tCount + 1 else m.tCount
def tClosing (c : PCfg) (m : M17) : Bool := tOpenNow m && decide (tCountNow m > c.testLast)

/-- the calls the monitor expects on the test sink for the next frame -/
def expT (c : PCfg) (m : M17) : List Obs :=
  (if tStarting m then [Obs.call .test .start true] else []) ++
  (if tOpenNow m then [Obs.call .test (.write m.n) true] else []) ++
  (if tClosing c m then [Obs.call .test .stop true] else [])

theorem step_frame (c : PCfg) (m : M17) (mo : Bool) (f : Faults) (obs : List Obs)
    (hs : sinkFault obs = false) :
    M17.step c m ⟨.frame mo f, obs⟩ =
      { m with n := m.n + 1, cPos := nextCPos c m, tOpen := tOpenNow m && !tClosing c m,
               tCount := if tClosing c m then 0 else tCountNow m, pending := false,
               fails := m.fails ++ (if m.tainted then [] else
                 (if obsOf .const obs = expC c m then [] else ["C17:continuous-file-layout"]) ++
                 (if obsOf .test obs = expT c m then [] else ["C17:test-recording-layout"])) } := by
  simp only [M17.step, hs]
  rfl

theorem step_bad (c : PCfg) (m : M17) (f : Faults) (obs : List Obs) (hs : sinkFault obs = false) :
    M17.step c m ⟨.bad f, obs⟩ =
      { m with cPos := 0, fails := m.fails ++ (if m.tainted then [] else
          if obsOf .const obs = (if c.constOn then [Obs.call .const .stop true] else []) then []
          else ["C17:continuous-file-layout"]) } := by
  simp only [M17.step, hs]
  rfl

theorem step_reset (c : PCfg) (m : M17) (f : Faults) (obs : List Obs) (hs : sinkFault obs = false) :
    M17.step c m ⟨.reset f, obs⟩ = m := by
  simp only [M17.step, hs]
  rfl

theorem step_testReq (c : PCfg) (m : M17) (obs : List Obs) (hs : sinkFault obs = false) :
    M17.step c m ⟨.testReq, obs⟩ =
      if m.tOpen || m.pending then { m with tainted := true, pending := true } else { m with pending := true } := by
  simp only [M17.step, hs]
  rfl

/-- a tainted monitor, or a dictated fault on the continuous / test sink: the monitor is tainted afterwards and
reports nothing new -/
theorem step_taint (c : PCfg) (m : M17) (st : Step) (h : m.tainted = true ∨ sinkFault st.obs = true) :
    (M17.step c m st).tainted = true ∧ (M17.step c m st).fails = m.fails := by
  obtain ⟨ev, obs⟩ := st
  -- the monitor as `M17.step` first updates it: tainted, all else as in `m`
  obtain ⟨m', e, ht, hf⟩ : ∃ m', (if sinkFault obs = true then { m with tainted := true } else m) = m' ∧
      m'.tainted = true ∧ m'.fails = m.fails := by
    refine ⟨_, rfl, ?_, ?_⟩ <;> split <;> first | rfl | exact h.resolve_right ‹_›
  cases ev <;> simp only [M17.step, e, ht, hf, if_true, List.append_nil, and_self]
  split <;> exact ⟨rfl, rfl⟩

end M17
end TR
