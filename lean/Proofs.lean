import Proofs.Ring
import Proofs.RingSpec
import Proofs.PipeLemmas
import Proofs.C01Spec
import Proofs.PipeC01
import Proofs.C12Spec
import Proofs.C03Spec
import Proofs.PipeThr
import Proofs.PipeSim
import Proofs.C04Spec
import Proofs.C13Spec
import Proofs.C17Spec
import Proofs.C06Spec
import Proofs.C14Daemons
import Proofs.C18Roll
import Proofs.PipeC04
import Proofs.PipeC03
import Proofs.PipeC15
import Proofs.ParseLemmas
import Proofs.PipeC09
import Proofs.PipeC17
import Proofs.C10Gen
import Proofs.C10Glob
import Proofs.C10Pipe
import Proofs.C10PipeThr
import Proofs.Excess
import Proofs.Scan
import Proofs.ProcFaults
