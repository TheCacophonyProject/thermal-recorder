import Props.C04
import Proofs.C04Spec
/-!
# C04, de-monitored — acceptance by `monC04` IS the start rule, position by position

`Props.C04` states C04 through the executable monitor `monC04` (a fold of the state machine `M4.step`).
Here the monitor is taken out of the trusted reading.  The definitions (`Proofs.C04Spec`; those about a single
step — `Step.startsRec`, `Step.endsRec`, `nextOpen`, `resetsRun`, `nextRun`, `attemptB`, `stepOk` — in
`Proofs.MonStep`) do not mention it:

* `Step.startsRec` — the step is a FRAME event whose observations contain a successful `StartRecording` on
  the motion sink; `Step.endsRec` — the step is a frame event whose observations contain a `StopRecording`
  on the motion sink, or a rejected frame, or a camera reset (never a test-recording request);
* `openBefore tr i` — a motion recording is open before step `i`.  A fold (`(o || startsRec) && !endsRec`),
  and in words (`openBefore_spec`): some earlier step begins a recording and neither that step nor any step
  after it (before `i`) ends one;
* `runBefore tr i` — the number of consecutive motion frames immediately before step `i`.  A fold
  (`runBefore_step`: back to 0 at a step that `resetsRun` — a frame without motion or the end of a
  recording —, plus one at a frame with motion, unchanged otherwise), and in words (`runBefore_exists`): the
  number of motion frames after the last step that ended a run;
* `attempt trig tr i motion` — a start attempt is due at the frame step `i` with motion bit `motion`
  (`attempt_iff`): no recording is open before it, the frame shows motion and `trig ≤ runBefore tr i + 1`;
* `StartRule trig tr` — for every position `i` whose event is `.frame motion f`:
  (a) `hasStartOk obs ↔ attempt ∧ f.win ∧ f.can ∧ f.mStart`,
  (b) `hasCan obs → attempt ∧ f.win`,
  (c) `hasStartAny obs → attempt ∧ f.win ∧ f.can`.
  (`hasStartOk_iff` … `hasCan_iff` read the four observation tests as membership statements.)

`monC04_iff`: for EVERY trace (the model's or one recorded from the real code) the monitor reports nothing
iff `StartRule` holds.  `c04_start_rule`: hence the model's traces obey it, for every configuration, every
event list and every fault placement.  The user-facing consequences (`no_start_outside_window`,
`no_start_without_motion`, `no_start_while_recording`, `start_needs_motion_run`, `start_when_due`,
`refused_attempt_retries`, `retry_starts`) are derived from `StartRule` and the definitions alone.

Corners:
* observations attached to events that are not frames are outside the rule, as they are outside the monitor:
  a successful start observed on a bad frame / reset / test request neither opens a recording in
  `openBefore` nor is it forbidden here (C13 forbids it on bad frames, C12 constrains the call order);
* a frame step that both begins and ends a recording (start and stop in the same observations) leaves no
  recording open and resets the run;
* a bad frame or reset resets the run only if a recording was open.
-/
namespace TR.C04Spec

/-! ## generic: any trace -/

/-- **The C04 monitor accepts exactly the traces that obey the plain start rule.** -/
theorem monC04_iff (trig : Nat) (tr : List Step) : monC04 trig tr = [] ↔ StartRule trig tr := by
  rw [monC04, (fold_monitor trig tr {}).2, startRule_iff, startRuleB]
  exact and_iff_right rfl

/-- soundness alone: what an accepted trace looks like -/
theorem monC04_sound (trig : Nat) (tr : List Step) (hacc : monC04 trig tr = []) : StartRule trig tr :=
  (monC04_iff trig tr).mp hacc

/-- completeness alone: the monitor raises no false alarm -/
theorem monC04_complete (trig : Nat) (tr : List Step) (h : StartRule trig tr) : monC04 trig tr = [] :=
  (monC04_iff trig tr).mpr h

/-! ### the observation tests, read as membership -/

theorem hasStartOk_iff (obs : List Obs) :
    hasStartOk obs = true ↔ Obs.call .motion .start true ∈ obs :=
  TR.hasStartOk_iff obs

theorem hasStartAny_iff (obs : List Obs) :
    hasStartAny obs = true ↔ ∃ ok, Obs.call .motion .start ok ∈ obs :=
  TR.hasStartAny_iff obs

theorem hasCan_iff (obs : List Obs) :
    hasCan obs = true ↔ ∃ ok, Obs.call .motion .can ok ∈ obs :=
  TR.hasCan_iff obs

theorem hasStop_iff (obs : List Obs) :
    hasStop obs = true ↔ ∃ ok, Obs.call .motion .stop ok ∈ obs :=
  TR.hasStop_iff obs

/-! ### `openBefore`, `runBefore`, `attempt` in words -/

/-- **`openBefore` in words**: a motion recording is open before step `i` iff some step before `i` begins one
(frame event with a successful start) and neither that step nor any later step before `i` ends one (stop on
a frame event, bad frame, reset) -/
theorem openBefore_spec (tr : List Step) (i : Nat) :
    openBefore tr i = true ↔
      ∃ pre st post, tr.take i = pre ++ st :: post ∧ st.startsRec = true ∧
        ∀ s ∈ st :: post, s.endsRec = false :=
  latch_false_iff nextOpen Step.startsRec Step.endsRec (fun _ _ => rfl) (tr.take i)

/-- `openBefore`, one step at a time -/
theorem openBefore_step (tr : List Step) (i : Nat) (h : i < tr.length) :
    openBefore tr 0 = false ∧
    openBefore tr (i + 1) = ((openBefore tr i || tr[i].startsRec) && !tr[i].endsRec) :=
  ⟨rfl, openBefore_succ tr i h⟩

/-- `runBefore`, one step at a time: 0 after a step that ends the run (a frame without motion, or the end of
a recording), one more after a frame with motion, unchanged otherwise -/
theorem runBefore_step (tr : List Step) (i : Nat) (h : i < tr.length) :
    runBefore tr 0 = 0 ∧
    runBefore tr (i + 1) =
      if resetsRun (openBefore tr i) tr[i] then 0
      else if tr[i].ev.motion then runBefore tr i + 1 else runBefore tr i :=
  ⟨rfl, runBefore_succ tr i h⟩

/-- **`runBefore` in words**: if step `j - 1` ended a run (or `j = 0`) and no step `j ≤ k < i` does, then the
run before step `i` is the number of motion frames among the steps `j ≤ k < i` -/
theorem runBefore_eq_count (tr : List Step) (j i : Nat) (hj : j = 0 ∨ resetsAt tr (j - 1) = true)
    (hji : j ≤ i) (hi : i ≤ tr.length) (hno : ∀ k, j ≤ k → k < i → resetsAt tr k = false) :
    runBefore tr i = motionFrames tr j i :=
  runBefore_count tr j i hj hji hi hno

/-- what "step `k` does not end the run" means at a frame step: the frame shows motion, and if its
observations contain a stop then no recording was open and none begins at it -/
theorem noReset_frame (tr : List Step) (k : Nat) (hk : k < tr.length) (h : resetsAt tr k = false)
    (motion : Bool) (f : Faults) (he : tr[k].ev = .frame motion f) :
    motion = true ∧ (hasStop tr[k].obs = true → openBefore tr k = false ∧ hasStartOk tr[k].obs = false) := by
  rw [resetsAt_eq tr k hk] at h
  simp only [resetsRun, Step.startsRec, Step.endsRec, he, Ev.isFrame, Ev.motion, Bool.true_and,
    Bool.or_eq_false_iff, Bool.not_eq_false', Bool.and_eq_false_iff] at h
  refine ⟨h.1, fun hs => ?_⟩
  rcases h.2 with h2 | h2
  · exact h2
  · rw [hs] at h2; cases h2

/-! ### consequences of `StartRule` alone -/

section consequences
variable {trig : Nat} {tr : List Step}

/-- everything a successful start implies -/
theorem start_conditions (h : StartRule trig tr) (i : Nat) (hi : i < tr.length) (motion : Bool) (f : Faults)
    (he : tr[i].ev = .frame motion f) (hs : hasStartOk tr[i].obs = true) :
    motion = true ∧ openBefore tr i = false ∧ trig ≤ runBefore tr i + 1 ∧
      f.win = true ∧ f.can = true ∧ f.mStart = true := by
  obtain ⟨ha, hw, hc, hm⟩ := (h i hi motion f he).1.mp hs
  obtain ⟨h1, h2, h3⟩ := (attempt_iff trig tr i motion).mp ha
  exact ⟨h2, h1, h3, hw, hc, hm⟩

/-- **no recording starts outside the window** -/
theorem no_start_outside_window (h : StartRule trig tr) (i : Nat) (hi : i < tr.length) (motion : Bool)
    (f : Faults) (he : tr[i].ev = .frame motion f) (hs : hasStartOk tr[i].obs = true) : f.win = true :=
  (start_conditions h i hi motion f he hs).2.2.2.1

/-- **no recording starts without motion** -/
theorem no_start_without_motion (h : StartRule trig tr) (i : Nat) (hi : i < tr.length) (motion : Bool)
    (f : Faults) (he : tr[i].ev = .frame motion f) (hs : hasStartOk tr[i].obs = true) : motion = true :=
  (start_conditions h i hi motion f he hs).1

/-- **no recording starts while one is open** -/
theorem no_start_while_recording (h : StartRule trig tr) (i : Nat) (hi : i < tr.length) (motion : Bool)
    (f : Faults) (he : tr[i].ev = .frame motion f) (hs : hasStartOk tr[i].obs = true) :
    openBefore tr i = false :=
  (start_conditions h i hi motion f he hs).2.1

/-- no recording starts when the recorder reports it cannot record, or when its start fails -/
theorem no_start_despite_disk_check (h : StartRule trig tr) (i : Nat) (hi : i < tr.length) (motion : Bool)
    (f : Faults) (he : tr[i].ev = .frame motion f) (hs : hasStartOk tr[i].obs = true) :
    f.can = true ∧ f.mStart = true :=
  (start_conditions h i hi motion f he hs).2.2.2.2

/-- **a recording starts only on the `trig`-th consecutive motion frame or later**: there is a stretch of
steps `j ≤ k < i` none of which ends the run (so every frame among them shows motion, `noReset_frame`)
containing at least `trig - 1` motion frames -/
theorem start_needs_motion_run (h : StartRule trig tr) (i : Nat) (hi : i < tr.length) (motion : Bool)
    (f : Faults) (he : tr[i].ev = .frame motion f) (hs : hasStartOk tr[i].obs = true) :
    ∃ j, j ≤ i ∧ (∀ k, j ≤ k → k < i → resetsAt tr k = false) ∧ trig ≤ motionFrames tr j i + 1 := by
  obtain ⟨j, hji, _, hno, hr⟩ := runBefore_exists tr i (Nat.le_of_lt hi)
  have := (start_conditions h i hi motion f he hs).2.2.1
  rw [hr] at this
  exact ⟨j, hji, hno, this⟩

/-- **the "if" direction**: a motion frame that completes a run of `trig` motion frames while no recording is
open, with the window open, the disk check passing and the sink accepting the start, does start a recording -/
theorem start_when_due (h : StartRule trig tr) (i : Nat) (hi : i < tr.length) (f : Faults)
    (he : tr[i].ev = .frame true f) (ho : openBefore tr i = false) (hr : trig ≤ runBefore tr i + 1)
    (hw : f.win = true) (hc : f.can = true) (hm : f.mStart = true) : hasStartOk tr[i].obs = true :=
  (h i hi true f he).1.mpr ⟨(attempt_iff trig tr i true).mpr ⟨ho, rfl, hr⟩, hw, hc, hm⟩

/-- a due attempt starts a recording iff the window is open, the disk check passes and the start succeeds -/
theorem attempt_starts_iff (h : StartRule trig tr) (i : Nat) (hi : i < tr.length) (motion : Bool) (f : Faults)
    (he : tr[i].ev = .frame motion f) (ha : attempt trig tr i motion = true) :
    hasStartOk tr[i].obs = true ↔ (f.win = true ∧ f.can = true ∧ f.mStart = true) := by
  rw [(h i hi motion f he).1]
  exact ⟨fun h => h.2, fun h => ⟨ha, h⟩⟩

/-- the disk check is not consulted, and `StartRecording` not called, unless an attempt is due and the
window is open; `StartRecording` is not called when the disk check fails -/
theorem calls_only_when_due (h : StartRule trig tr) (i : Nat) (hi : i < tr.length) (motion : Bool) (f : Faults)
    (he : tr[i].ev = .frame motion f) :
    (hasCan tr[i].obs = true → attempt trig tr i motion = true ∧ f.win = true) ∧
    (hasStartAny tr[i].obs = true → attempt trig tr i motion = true ∧ f.win = true ∧ f.can = true) :=
  (h i hi motion f he).2

end consequences

/-! ### a refused start leaves the pipeline ready to retry (from the definitions alone) -/

/-- one step while no recording is open and none begins -/
theorem next_idle (r : Nat) (s : Step) (h : s.startsRec = false) :
    next (false, r) s =
      (false, if (s.ev.isFrame && !s.ev.motion) = true then 0 else if s.ev.motion = true then r + 1 else r) := by
  simp only [next, nextOpen, nextRun, resetsRun, h, Bool.or_false, Bool.false_and]

/-- after a motion frame at which an attempt was due but no recording started, as long as only events
that are not frames follow (test requests, bad frames, resets), no recording is open and the run stands at
one more than before -/
theorem after_refusal (trig : Nat) (tr : List Step) (i : Nat) (hi : i < tr.length) (f : Faults)
    (he : tr[i].ev = .frame true f) (ha : attempt trig tr i true = true)
    (hns : hasStartOk tr[i].obs = false) :
    ∀ d, i + 1 + d ≤ tr.length →
      (∀ k (hk : k < tr.length), i < k → k < i + 1 + d → tr[k].ev.isFrame = false) →
      openBefore tr (i + 1 + d) = false ∧ runBefore tr (i + 1 + d) = runBefore tr i + 1 := by
  obtain ⟨ho, _, _⟩ := (attempt_iff trig tr i true).mp ha
  intro d
  induction d with
  | zero =>
    intro _ _
    have h := before_succ tr i hi
    rw [ho, next_idle _ _ (by rw [Step.startsRec, hns, Bool.and_false]), he] at h
    exact Prod.mk.inj h
  | succ d ih =>
    intro hlen hnf
    have hk : i + 1 + d < tr.length := hlen
    obtain ⟨h1, h2⟩ := ih (Nat.le_of_lt hk) (fun k hk' a b => hnf k hk' a (Nat.lt_succ_of_lt b))
    have hfr : tr[i + 1 + d].ev.isFrame = false :=
      hnf (i + 1 + d) hk (by omega) (Nat.lt_succ_self _)
    have hmo : tr[i + 1 + d].ev.motion = false := by
      generalize tr[i + 1 + d].ev = e at hfr
      cases e <;> first | rfl | cases hfr
    have h := before_succ tr (i + 1 + d) hk
    rw [h1, h2, next_idle _ _ (by rw [Step.startsRec, hfr, Bool.false_and]), hfr, hmo] at h
    exact Prod.mk.inj h

/-- **a refused attempt does not reset the run**: if step `i` is a motion frame at which an attempt was due
and no recording started (window closed, disk check failed or start failed), and step `i + 1` is a motion
frame, then an attempt is due at step `i + 1` too -/
theorem refused_attempt_retries (trig : Nat) (tr : List Step) (i : Nat) (hi : i + 1 < tr.length)
    (f f' : Faults) (he : tr[i].ev = .frame true f) (ha : attempt trig tr i true = true)
    (hns : hasStartOk tr[i].obs = false) (_he' : tr[i + 1].ev = .frame true f') :
    attempt trig tr (i + 1) true = true := by
  obtain ⟨h1, h2⟩ := after_refusal trig tr i (Nat.lt_of_succ_lt hi) f he ha hns 0 (Nat.le_of_lt hi)
    (fun k _ a b => absurd a (Nat.not_lt_of_ge (Nat.le_of_lt_succ b)))
  obtain ⟨_, _, hr⟩ := (attempt_iff trig tr i true).mp ha
  exact (attempt_iff trig tr (i + 1) true).mpr ⟨h1, rfl, by rw [h2]; omega⟩

/-- the same with test requests, bad frames or resets in between: the next motion frame `k` is an attempt -/
theorem refused_attempt_retries_later (trig : Nat) (tr : List Step) (i k : Nat) (hik : i < k)
    (hk : k < tr.length) (f : Faults) (he : tr[i].ev = .frame true f) (ha : attempt trig tr i true = true)
    (hns : hasStartOk tr[i].obs = false)
    (hbetween : ∀ j (hj : j < tr.length), i < j → j < k → tr[j].ev.isFrame = false) :
    attempt trig tr k true = true := by
  obtain ⟨d, rfl⟩ := Nat.le.dest (Nat.succ_le_of_lt hik)
  obtain ⟨h1, h2⟩ := after_refusal trig tr i (by omega) f he ha hns d (Nat.le_of_lt hk) hbetween
  obtain ⟨_, _, hr⟩ := (attempt_iff trig tr i true).mp ha
  exact (attempt_iff trig tr (i + 1 + d) true).mpr ⟨h1, rfl, by rw [h2]; omega⟩

/-- … and under the rule the retry succeeds as soon as the gate opens -/
theorem retry_starts {trig : Nat} {tr : List Step} (h : StartRule trig tr) (i : Nat) (hi : i + 1 < tr.length)
    (f f' : Faults) (he : tr[i].ev = .frame true f) (ha : attempt trig tr i true = true)
    (hns : hasStartOk tr[i].obs = false) (he' : tr[i + 1].ev = .frame true f')
    (hw : f'.win = true) (hc : f'.can = true) (hm : f'.mStart = true) :
    hasStartOk tr[i + 1].obs = true :=
  (attempt_starts_iff h (i + 1) hi true f' he'
    (refused_attempt_retries trig tr i hi f f' he ha hns he')).mpr ⟨hw, hc, hm⟩

/-! ## the model -/

/-- **C04 as a plain rule.**  For every configuration, every event list and every fault placement, the
model's trace obeys `StartRule c.trig`. -/
theorem c04_start_rule (c : PCfg) (evs : List Ev) :
    StartRule c.trig (PState.trace c (PState.init c) evs) :=
  (monC04_iff _ _).mp (C04.c04_start_monitor c evs)

/-- on the model's traces `openAfter` is the processor's own `isRec` flag, and while no recording is open
`runAfter` is its `triggered` counter -/
theorem model_state (c : PCfg) (evs : List Ev) :
    openAfter (PState.trace c (PState.init c) evs) = (PState.after c (PState.init c) evs).isRec ∧
    ((PState.after c (PState.init c) evs).isRec = false →
      runAfter (PState.trace c (PState.init c) evs) = (PState.after c (PState.init c) evs).triggered) := by
  have h := C04.c04_monitor_tracks c evs
  obtain ⟨h1, h2⟩ := Prod.mk.inj (fold_monitor c.trig (PState.trace c (PState.init c) evs) {}).1
  rw [h1, h2] at h
  exact h

/-- no recording of the model starts outside the window, without motion, or while one is open -/
theorem c04_no_bad_start (c : PCfg) (evs : List Ev) (i : Nat)
    (hi : i < (PState.trace c (PState.init c) evs).length) (motion : Bool) (f : Faults)
    (he : (PState.trace c (PState.init c) evs)[i].ev = .frame motion f)
    (hs : hasStartOk (PState.trace c (PState.init c) evs)[i].obs = true) :
    f.win = true ∧ motion = true ∧ openBefore (PState.trace c (PState.init c) evs) i = false := by
  obtain ⟨h1, h2, _, h4, _⟩ := start_conditions (c04_start_rule c evs) i hi motion f he hs
  exact ⟨h4, h1, h2⟩

/-! ## non-vacuity -/

private def cfg : PCfg := { K := 3, minF := 2, maxF := 5, trig := 2, constOn := true, testLast := 2 }

/-- still frame, two motion frames, three refusals (disk check, window, failing start), a start, the
recording runs out on the next (still) frame, a second recording cut by a bad frame, a test
request, a third cut by a reset -/
private def evs : List Ev :=
  [.frame false {}, .frame true {}, .frame true { can := false }, .frame true { win := false },
   .frame true { mStart := false }, .frame true {}, .frame false {}, .frame false {}, .frame false {},
   .frame true {}, .frame true {}, .bad {}, .testReq, .frame true {}, .frame true {}, .reset {},
   .frame true {}, .frame true {}]

set_option maxRecDepth 20000 in
/-- the model's run: where recordings start, where one is open, the run lengths, the attempts -/
example :
    let tr := PState.trace cfg (PState.init cfg) evs
    tr.map (fun st => hasStartOk st.obs) =
      [false, false, false, false, false, true, false, false, false,
       false, true, false, false, false, true, false, false, true] ∧
    (List.range 19).map (openBefore tr) =
      [false, false, false, false, false, false, true, false, false, false,
       false, true, false, false, false, true, false, false, true] ∧
    (List.range 19).map (runBefore tr) =
      [0, 0, 1, 2, 3, 4, 5, 0, 0, 0, 1, 2, 0, 0, 1, 2, 0, 1, 2] ∧
    (List.range 18).map (fun i => attempt cfg.trig tr i (evs.getD i .testReq).motion) =
      [false, false, true, true, true, true, false, false, false,
       false, true, false, false, false, true, false, false, true] := by
  decide +kernel

set_option maxRecDepth 20000 in
/-- accepted by the monitor, and obeys the plain rule -/
example :
    monC04 cfg.trig (PState.trace cfg (PState.init cfg) evs) = [] ∧
    StartRule cfg.trig (PState.trace cfg (PState.init cfg) evs) := by
  decide +kernel

/-- a hand-written accepted trace: refusal by the disk check, then by a failing start, then a start; a
start and a stop on the same frame; a bad frame while nothing is open keeps the run -/
private def good : List Step :=
  [⟨.frame true {}, [.md]⟩,
   ⟨.frame true { can := false }, [.md, .call .motion .can false]⟩,
   ⟨.frame true { mStart := false }, [.md, .call .motion .can true, .call .motion .start false]⟩,
   ⟨.frame true {}, [.md, .call .motion .can true, .call .motion .start true, .rs,
      .call .motion (.write 0) true, .call .motion .stop true]⟩,
   ⟨.frame true {}, [.md]⟩,
   ⟨.bad {}, []⟩,
   ⟨.testReq, []⟩,
   ⟨.frame true { win := false }, [.md]⟩,
   ⟨.frame true {}, [.md, .call .motion .can true, .call .motion .start true]⟩,
   ⟨.frame true {}, [.md, .call .motion (.write 5) true]⟩,
   ⟨.reset {}, [.call .motion .stop true]⟩]

example :
    monC04 2 good = [] ∧ StartRule 2 good ∧
    (List.range 12).map (openBefore good) =
      [false, false, false, false, false, false, false, false, false, true, true, false] ∧
    (List.range 12).map (runBefore good) = [0, 1, 2, 3, 0, 1, 1, 1, 2, 3, 4, 0] := by
  decide +kernel

/-- a start with the window closed: rejected, and the rule fails -/
example :
    let tr : List Step := [⟨.frame true { win := false },
      [.md, .call .motion .can true, .call .motion .start true, .rs]⟩]
    monC04 1 tr ≠ [] ∧ "C04:start-outside-window" ∈ monC04 1 tr ∧ ¬ StartRule 1 tr := by decide +kernel

/-- a start on the first motion frame when two are required: rejected, and the rule fails -/
example :
    let tr : List Step := [⟨.frame true {}, [.md, .call .motion .can true, .call .motion .start true, .rs]⟩]
    "C04:start-before-trigger-frames" ∈ monC04 2 tr ∧ ¬ StartRule 2 tr ∧ StartRule 1 tr := by decide +kernel

/-- a missing start: rejected, and the rule fails -/
example :
    let tr : List Step := [⟨.frame true {}, [.md]⟩]
    monC04 1 tr = ["C04:start-missing"] ∧ ¬ StartRule 1 tr := by decide +kernel

/-- a start while a recording is open; a start on a frame without motion; a start attempt although the disk
check is dictated to fail; the disk check consulted although no attempt is due -/
example :
    ¬ StartRule 1 [⟨.frame true {}, [.call .motion .can true, .call .motion .start true]⟩,
                   ⟨.frame true {}, [.call .motion .can true, .call .motion .start true]⟩] ∧
    ¬ StartRule 0 [⟨.frame false {}, [.call .motion .can true, .call .motion .start true]⟩] ∧
    ¬ StartRule 1 [⟨.frame true { can := false }, [.call .motion .can false, .call .motion .start false]⟩] ∧
    ¬ StartRule 2 [⟨.frame true {}, [.call .motion .can true]⟩] := by decide +kernel

/-- a run interrupted by a frame without motion starts over: the start on the third frame is wrong -/
example :
    let tr : List Step :=
      [⟨.frame true {}, [.md]⟩, ⟨.frame false {}, []⟩,
       ⟨.frame true {}, [.md, .call .motion .can true, .call .motion .start true]⟩]
    runBefore tr 2 = 0 ∧ ¬ StartRule 2 tr := by decide +kernel

/-- corner: observations on events that are not frames are outside the rule (and outside the monitor) — a
start observed on a test request is accepted, and does not open a recording in `openBefore` -/
example :
    let tr : List Step := [⟨.testReq, [.call .motion .start true]⟩, ⟨.frame false {}, []⟩]
    monC04 1 tr = [] ∧ StartRule 1 tr ∧ openBefore tr 1 = false := by decide +kernel

end TR.C04Spec
