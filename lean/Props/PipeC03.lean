import Props.C01Spec
import Props.C02
import Props.C03Spec
import Props.PipeC04
import Proofs.PipeC03
/-!
# C02 + C03 end to end — length and extent of every motion file of the composed pipeline

`Props.C01Spec` / `Props.PipeC04` show that the motion files of the unthrottled pipeline (`TR.Pipeline`: socket
items → parser → detector → processor → abstract files) ARE the recordings of the processor trace it induces
(`C01Spec.recordings`: per recording, the list of ids written).  `Props.C03Spec` states the length rule on the
other view of a recording (`C03Spec.recordingsOf`: per recording, the motion bits of its frames from the
trigger frame on, and how it ended).  `Props.C02` gives the reach of the pre-trigger buffer at one start.
Here the views are linked and the result is read off the files.

Definitions (in `Proofs.PipeC03`):

* `Entry = (lo, t, ms, e)` — one recording in both views: first id written, accepted-frame number (= id) of
  the trigger frame, motion bits of the frames from the trigger frame on, end kind;
  `Entry.ids = [lo, …, t + ms.length − 1]`, `Entry.view = (ms, e)`, `Entry.pre = t − lo` (number of
  pre-trigger frames), `Entry.stop = t + ms.length` (one past the last id);
* `triggerFrames tr` — for every recording of `recordingsOf tr`, the accepted-frame number of the frame event
  that carried the successful `StartRecording` (`mem_triggerFrames`);
* `Tiled K 0 L` — `lo = max (t + 1 − K) nf` for every entry, `nf` being one past the last id of the previous
  entry (0 for the first).

"**Closed by the length rule**" means: the entry of `recordingsOf` at the same position has end kind
`EndKind.byStop` (a `StopRecording` on the motion sink while one of the recording's own frames was processed).
The other end kinds that occur are `byBadOrReset` (a rejected frame or a `clear` marker ended it) and
`stillOpen` (the last file, not finished yet).  Note that `RecFile.closed` is true for `byStop` AND
`byBadOrReset` files.

Results.  `K = c.proc.K` (ring capacity = preview-secs·fps + trigger-frames), `minF`, `maxF` in frames,
`L = lastMotion ms` (1-based index of the last motion frame counted from the trigger frame).

1. `model_two_views`, `model_views_indexwise` — the processor model, every configuration with `K ≥ 1`, every
   event list, every fault placement except failing motion-sink writes: the two lists have the same length;
   the `i`-th id list is `[t − pre, …, t + ms.length − 1]` with `pre ≤ K − 1`, so it has `pre + ms.length`
   elements and its element number `pre` is the trigger frame `t`.
2. `pipe_extent` (entry form), `pipe_c03` (index form), `pipe_file_length`, `pipe_c03_stopped` — the
   pipeline with changing window / disk gates (`runG` of `Proofs.PipeSim`), throttle off, `K ≥ 1`,
   `minF ≤ maxF`: every motion file is `pre ≤ K − 1` pre-trigger frames followed by `ms.length` frames from the
   trigger frame on;
   * closed by the length rule: `ms.length = max 1 (min maxF (L − 1 + minF))` EXACTLY; for `1 ≤ minF` this is
     `min maxF (L − 1 + minF)`, and `minF ≤ r.length ≤ (K − 1) + maxF`;
   * ended otherwise (bad frame, `clear`, still open): `ms.length < min maxF (L − 1 + minF)` — cut short;
   * however it ended: `1 ≤ r.length ≤ (K − 1) + max 1 maxF`;
   * fewer than `K − 1` pre-trigger frames only if the file begins with frame 0 (start-up) or with the frame
     right after the last frame of the previous motion file.
   The form "`r.length = pre + min maxF (L − 1 + minF)`" WITHOUT the `max 1` is false for `minF = 0`
   (counterexample below: the trigger frame is always written); with `1 ≤ minF` it is `pipe_c03_stopped`.
   `pipe_extent_fixed`: the same for the fixed-configuration pipeline of `Props.C01Spec`.
3. `pipe_file_frames_le` — in seconds: with `K = preview·fps + trig` and `maxF = max·fps ≥ 1` no motion file
   holds more than `(preview + max)·fps + trig − 1` frames.
4. Non-vacuity by evaluation on the `Tiny` pipeline of `Proofs.PipeLemmas`.
-/
namespace TR.PipeC03
open TR TR.C01Spec TR.C03Spec TR.PipeC04

/-! ## what is proved about one recording / motion file -/

/-- length and extent of one recording `x = (lo, t, ms, e)` for processor configuration `c` -/
structure Extent (c : PCfg) (x : Entry) : Prop where
  /-- the ids written are `lo, …, t, …`: the trigger frame is among them -/
  lo_le : x.lo ≤ x.t
  /-- at most `K − 1` pre-trigger frames -/
  pre_le : x.pre ≤ c.K - 1
  /-- the file holds the pre-trigger frames and the frames from the trigger frame on -/
  len : x.ids.length = x.pre + x.ms.length
  /-- element number `pre` of the id list is the trigger frame -/
  trigger : x.ids[x.pre]? = some x.t
  /-- the trigger frame is a motion frame -/
  head : x.ms.head? = some true
  post_ge : 1 ≤ x.ms.length
  post_le : x.ms.length ≤ max 1 c.maxF
  kind : x.e = .byStop ∨ x.e = .byBadOrReset ∨ x.e = .stillOpen
  /-- closed by the length rule: exactly `min maxF (L − 1 + minF)` frames from the trigger frame on (at least
  the trigger frame itself) -/
  stop_len : x.e = .byStop → x.ms.length = max 1 (min c.maxF (lastMotion x.ms - 1 + c.minF))
  /-- ended by a bad frame / `clear`, or still open: fewer -/
  cut_len : x.e ≠ .byStop → x.ms.length < min c.maxF (lastMotion x.ms - 1 + c.minF)

theorem lastMotion_pos_of_head (ms : List Bool) (h : ms.head? = some true) : 1 ≤ lastMotion ms := by
  cases ms with
  | nil => simp at h
  | cons b bs =>
    simp only [List.head?_cons, Option.some.injEq] at h
    subst h
    simp only [lastMotion]
    split
    · omega
    · simp

/-- the three projections of one entry list, read at one position -/
theorem views_at {L : List Entry} {i : Nat} {ids : List Nat} {ms : List Bool} {e : EndKind} {t : Nat}
    (h1 : (L.map Entry.ids)[i]? = some ids) (h2 : (L.map Entry.view)[i]? = some (ms, e))
    (h3 : (L.map (·.t))[i]? = some t) :
    ∃ x, L[i]? = some x ∧ x.ids = ids ∧ x.ms = ms ∧ x.e = e ∧ x.t = t := by
  rw [List.getElem?_map] at h1 h2 h3
  cases hx : L[i]? with
  | none => rw [hx] at h1; cases h1
  | some x =>
    rw [hx] at h1 h2 h3
    simp only [Option.map_some, Option.some.injEq, Entry.view, Prod.mk.injEq] at h1 h2 h3
    exact ⟨x, rfl, h1, h2.1, h2.2, h3⟩

/-! ## (1) the two views of the model's recordings -/

/-- `triggerFrames` is what its name says: `t` is listed iff the trace splits at a frame event that carries
a successful `StartRecording` on the motion sink and has exactly `t` frame events before it -/
theorem mem_triggerFrames (tr : List Step) (t : Nat) :
    t ∈ triggerFrames tr ↔ ∃ pre st post, tr = pre ++ st :: post ∧ startsRec st = true ∧
      t = (pre.filter (·.ev.isFrame)).length := by
  simpa only [triggerFrames, Nat.zero_add] using mem_triggersFrom tr 0 t

/-- one trigger frame per recording, on every trace -/
theorem triggerFrames_length (tr : List Step) : (triggerFrames tr).length = (recordingsOf tr).length :=
  triggersFrom_length tr 0

/-- **The two views of a recording, linked** (entry form).  For every configuration with `K ≥ 1`, every event
list and every fault placement except failing motion-sink writes, there is ONE list of entries `(lo, t, ms, e)`
whose projections are the id lists of `recordings`, the (motion bits, end kind) pairs of `recordingsOf` and
the trigger frames; every entry has `lo ≤ t < lo + K` and at least its trigger frame; the entries tile:
`lo = max (t + 1 − K) (one past the previous entry's last id)`. -/
theorem model_two_views (c : PCfg) (hK : 0 < c.K) (evs : List Ev) (hw : C01.NoWriteFaults evs) :
    let tr := PState.trace c (PState.init c) evs
    ∃ L : List Entry,
      recordings tr = L.map Entry.ids ∧ recordingsOf tr = L.map Entry.view ∧ triggerFrames tr = L.map (·.t) ∧
      (∀ x ∈ L, x.lo ≤ x.t ∧ x.t < x.lo + c.K ∧ 1 ≤ x.ms.length) ∧ Tiled c.K 0 L :=
  model_link c hK evs hw

/-- **The two views of a recording, linked** (index form).  The lists `recordings tr` and `recordingsOf tr`
(and `triggerFrames tr`) have the same length; the `i`-th id list is the run `[t − pre, …, t + ms.length − 1]`
where `t` is the accepted-frame number of the frame at which the recording started, `ms` the motion bits of
`(recordingsOf tr)[i]` and `pre ≤ K − 1` the number of pre-trigger frames: it has `pre + ms.length` elements,
element number `pre` is the trigger frame. -/
theorem model_views_indexwise (c : PCfg) (hK : 0 < c.K) (evs : List Ev) (hw : C01.NoWriteFaults evs) :
    let tr := PState.trace c (PState.init c) evs
    (recordings tr).length = (recordingsOf tr).length ∧
    (triggerFrames tr).length = (recordingsOf tr).length ∧
    ∀ (i : Nat) (ids : List Nat) (ms : List Bool) (e : EndKind) (t : Nat), (recordings tr)[i]? = some ids → (recordingsOf tr)[i]? = some (ms, e) →
      (triggerFrames tr)[i]? = some t →
      ∃ pre, pre ≤ c.K - 1 ∧ pre ≤ t ∧ ids.length = pre + ms.length ∧ ids[pre]? = some t ∧
        ids = List.range' (t - pre) (pre + ms.length) := by
  intro tr
  obtain ⟨L, h1, h2, h3, hwf, _⟩ := model_link c hK evs hw
  refine ⟨?_, triggerFrames_length tr, ?_⟩
  · show (recordings tr).length = (recordingsOf tr).length
    rw [h1, h2]; simp
  · intro i ids ms e t g1 g2 g3
    obtain ⟨x, hx, rfl, rfl, rfl, rfl⟩ := views_at (h1 ▸ g1) (h2 ▸ g2) (h3 ▸ g3)
    obtain ⟨w1, w2, w3⟩ := hwf x (List.mem_of_getElem? hx)
    refine ⟨x.pre, by unfold Entry.pre; omega, by unfold Entry.pre; omega, ids_length x, ids_trigger x w1 w3,
      ids_eq x w1⟩

/-! ## (2) the pipeline -/

/-- the model's recordings with the length rule applied: the core of the pipeline theorems -/
theorem model_extent (c : PCfg) (hK : 0 < c.K) (hmm : c.minF ≤ c.maxF) (evs : List Ev)
    (hw : C01.NoWriteFaults evs) :
    let tr := PState.trace c (PState.init c) evs
    ∃ L : List Entry,
      recordings tr = L.map Entry.ids ∧ recordingsOf tr = L.map Entry.view ∧ triggerFrames tr = L.map (·.t) ∧
      Tiled c.K 0 L ∧ (∀ x ∈ L, x.WF c.K) ∧ ∀ x ∈ L, Extent c x := by
  intro tr
  obtain ⟨L, h1, h2, h3, hwf, ht⟩ := model_link c hK evs hw
  obtain ⟨hrule, _, hwf2⟩ := c03_length_rule c hK hmm evs hw
  refine ⟨L, h1, h2, h3, ht, hwf, ?_⟩
  intro x hx
  have hmem : x.view ∈ recordingsOf tr := by
    show x.view ∈ recordingsOf (PState.trace c (PState.init c) evs)
    rw [h2]; exact List.mem_map_of_mem hx
  obtain ⟨hlen, hpre, hge, hle, hstop, hcut⟩ := entry_bounds c.K c.minF c.maxF x (hwf x hx) (hrule _ hmem)
  obtain ⟨hhead, hnoRestart⟩ := hwf2 _ hmem
  exact
    { lo_le := (hwf x hx).1, pre_le := hpre, len := hlen, trigger := ids_trigger x (hwf x hx).1 hge, head := hhead,
      post_ge := hge, post_le := hle,
      kind := by
        cases he : x.e with
        | byStop => exact .inl rfl
        | byBadOrReset => exact .inr (.inl rfl)
        | stillOpen => exact .inr (.inr rfl)
        | byRestart => exact absurd he hnoRestart,
      stop_len := hstop, cut_len := hcut }

section pipeline
variable {F : FloatOps}

/-- **Length and extent of every motion file** (entry form).  Throttle off, ring capacity `K ≥ 1`,
`minF ≤ maxF`, every `FloatOps`, every history of gate values / socket items / test requests: there is one list
of entries whose id lists are the motion files (oldest first), whose `(ms, e)` pairs are the recordings of the
induced processor trace in the sense of `Props.C03Spec`, whose `t` are the trigger frames; the entries tile
(`Tiled`) and each satisfies `Extent`. -/
theorem pipe_extent (c : PipeCfg) (hK : 0 < c.proc.K) (hmm : c.proc.minF ≤ c.proc.maxF)
    (hthr : c.throttle = false) (gs : List GOp) :
    let p := runG F c gs
    let tr := PState.trace c.proc (PState.init c.proc) (evsG F c gs)
    ∃ L : List Entry,
      motionFiles p = L.map Entry.ids ∧ recordingsOf tr = L.map Entry.view ∧ triggerFrames tr = L.map (·.t) ∧
      Tiled c.proc.K 0 L ∧ ∀ x ∈ L, Extent c.proc x := by
  intro p tr
  obtain ⟨hw, _, hR, _, _⟩ := pipe_gates_files_are_recordings (F := F) c hK hthr gs
  obtain ⟨L, h1, h2, h3, ht, _, hx⟩ := model_extent c.proc hK hmm (evsG F c gs) hw
  exact ⟨L, hR.trans h1, h2, h3, ht, hx⟩

/-- the same for the fixed-configuration pipeline of `Props.C01Spec` (the induced event list is the one of
`pipe_files_are_recordings`) -/
theorem pipe_extent_fixed (c : PipeCfg) (hK : 0 < c.proc.K) (hmm : c.proc.minF ≤ c.proc.maxF)
    (hthr : c.throttle = false) (ops : List PipeOp) :
    let p := ops.foldl (Pipe.op c) (Pipe.init F c)
    ∃ (evs : List Ev) (L : List Entry), C01.NoWriteFaults evs ∧
      p.proc = PState.after c.proc (PState.init c.proc) evs ∧
      motionFiles p = L.map Entry.ids ∧
      recordingsOf (PState.trace c.proc (PState.init c.proc) evs) = L.map Entry.view ∧
      triggerFrames (PState.trace c.proc (PState.init c.proc) evs) = L.map (·.t) ∧
      Tiled c.proc.K 0 L ∧ ∀ x ∈ L, Extent c.proc x := by
  intro p
  obtain ⟨evs, hw, hp, hR, _⟩ := pipe_files_are_recordings (F := F) c hK hthr ops
  obtain ⟨L, h1, h2, h3, ht, _, hx⟩ := model_extent c.proc hK hmm evs hw
  exact ⟨evs, L, hw, hp, hR.trans h1, h2, h3, ht, hx⟩

/-- **every motion file, however it ended** (closed by the length rule, by a bad frame or a `clear` marker, or
still open): at least one frame, at most `(K − 1) + max 1 maxF` -/
theorem pipe_file_length (c : PipeCfg) (hK : 0 < c.proc.K) (hmm : c.proc.minF ≤ c.proc.maxF)
    (hthr : c.throttle = false) (gs : List GOp) :
    ∀ r ∈ motionFiles (runG F c gs), 1 ≤ r.length ∧ r.length ≤ (c.proc.K - 1) + max 1 c.proc.maxF := by
  intro r hr
  obtain ⟨L, h1, _, _, _, hx⟩ := pipe_extent (F := F) c hK hmm hthr gs
  rw [h1] at hr
  obtain ⟨x, hxL, rfl⟩ := List.mem_map.mp hr
  have e := hx x hxL
  have := e.len; have := e.pre_le; have := e.post_ge; have := e.post_le
  omega

/-- **C02 + C03 end to end** (index form).  The motion files, the recordings of the induced trace and the
trigger frames correspond position by position.  For the `i`-th motion file `r`, with `(ms, e)` the `i`-th entry
of `recordingsOf` and `t` the `i`-th trigger frame, there is `pre ≤ K − 1` such that
* `r = [t − pre, …, t + ms.length − 1]`: `pre` pre-trigger frames, then `ms.length` frames from the trigger frame on;
* `pre < K − 1` only if the file begins with frame 0 or right after the last frame of the previous motion file;
* closed by the length rule (`e = byStop`): `r.length = pre + max 1 (min maxF (L − 1 + minF))`;
* ended otherwise: `r.length < pre + min maxF (L − 1 + minF)`;
* always `1 ≤ ms.length ≤ max 1 maxF`, and `e` is `byStop`, `byBadOrReset` or `stillOpen`. -/
theorem pipe_c03 (c : PipeCfg) (hK : 0 < c.proc.K) (hmm : c.proc.minF ≤ c.proc.maxF)
    (hthr : c.throttle = false) (gs : List GOp) :
    let p := runG F c gs
    let tr := PState.trace c.proc (PState.init c.proc) (evsG F c gs)
    (motionFiles p).length = (recordingsOf tr).length ∧
    (triggerFrames tr).length = (recordingsOf tr).length ∧
    ∀ (i : Nat) (r : List Nat) (ms : List Bool) (e : EndKind) (t : Nat), (motionFiles p)[i]? = some r → (recordingsOf tr)[i]? = some (ms, e) →
      (triggerFrames tr)[i]? = some t →
      ∃ pre, pre ≤ c.proc.K - 1 ∧ pre ≤ t ∧ r = List.range' (t - pre) (pre + ms.length) ∧
        (pre < c.proc.K - 1 → (i = 0 ∧ t - pre = 0) ∨
          ∃ r' l, 0 < i ∧ (motionFiles p)[i - 1]? = some r' ∧ r'.getLast? = some l ∧ t - pre = l + 1) ∧
        1 ≤ ms.length ∧ ms.length ≤ max 1 c.proc.maxF ∧ ms.head? = some true ∧
        (e = .byStop ∨ e = .byBadOrReset ∨ e = .stillOpen) ∧
        (e = .byStop → r.length = pre + max 1 (min c.proc.maxF (lastMotion ms - 1 + c.proc.minF))) ∧
        (e ≠ .byStop → r.length < pre + min c.proc.maxF (lastMotion ms - 1 + c.proc.minF)) := by
  intro p tr
  obtain ⟨hw, _, hR, _, _⟩ := pipe_gates_files_are_recordings (F := F) c hK hthr gs
  obtain ⟨L, h1, h2, h3, ht, hwf, hx⟩ := model_extent c.proc hK hmm (evsG F c gs) hw
  have hfiles : motionFiles p = L.map Entry.ids := hR.trans h1
  refine ⟨?_, triggerFrames_length tr, ?_⟩
  · show (motionFiles p).length = (recordingsOf tr).length
    rw [hfiles]
    show _ = (recordingsOf (PState.trace c.proc (PState.init c.proc) (evsG F c gs))).length
    rw [h2]; simp
  · intro i r ms e t g1 g2 g3
    obtain ⟨x, hxi, rfl, rfl, rfl, rfl⟩ := views_at (hfiles ▸ g1) (h2 ▸ g2) (h3 ▸ g3)
    obtain ⟨hi, hxe⟩ := List.getElem?_eq_some_iff.mp hxi
    have ex := hx x (List.mem_of_getElem? hxi)
    refine ⟨x.pre, ex.pre_le, by unfold Entry.pre; omega, ids_eq x ex.lo_le, ?_, ex.post_ge, ex.post_le, ex.head,
      ex.kind, ?_, ?_⟩
    · intro hshort
      rw [show x.t - x.pre = x.lo from Nat.sub_sub_self ex.lo_le]
      rcases tiled_short c.proc.K L ht hwf i hi (by rw [hxe]; exact hshort) with ⟨h0, hz⟩ | ⟨j, hj, hij, hz⟩
      · rw [hxe] at hz; exact Or.inl ⟨h0, hz⟩
      · rw [hxe] at hz
        have wj := hwf L[j] (List.getElem_mem hj)
        refine Or.inr ⟨L[j].ids, L[j].stop - 1, by omega, ?_, ids_getLast L[j] wj.1 wj.2.2, ?_⟩
        · rw [hfiles, hij, Nat.add_sub_cancel, List.getElem?_map, List.getElem?_eq_getElem hj]; rfl
        · rw [hz]
          have : 1 ≤ L[j].stop := by have := wj.2.2; unfold Entry.stop; omega
          omega
    · intro he
      rw [ex.len, ex.stop_len he]
    · intro he
      have := ex.cut_len he
      rw [ex.len]; omega

/-- **a motion file closed by the length rule, `1 ≤ minF ≤ maxF`**: it holds `pre ≤ K − 1` pre-trigger frames and
then EXACTLY `min maxF (L − 1 + minF)` frames from the trigger frame on, `L ≥ 1` being the index of its last
motion frame — so `minF ≤ r.length ≤ (K − 1) + maxF`. -/
theorem pipe_c03_stopped (c : PipeCfg) (hK : 0 < c.proc.K) (hmm : c.proc.minF ≤ c.proc.maxF)
    (h1 : 1 ≤ c.proc.minF) (hthr : c.throttle = false) (gs : List GOp) :
    let p := runG F c gs
    let tr := PState.trace c.proc (PState.init c.proc) (evsG F c gs)
    ∀ (i : Nat) (r : List Nat) (ms : List Bool), (motionFiles p)[i]? = some r → (recordingsOf tr)[i]? = some (ms, .byStop) →
      ∃ pre, pre ≤ c.proc.K - 1 ∧ 1 ≤ lastMotion ms ∧ lastMotion ms ≤ ms.length ∧
        r.length = pre + min c.proc.maxF (lastMotion ms - 1 + c.proc.minF) ∧
        ms.length = min c.proc.maxF (lastMotion ms - 1 + c.proc.minF) ∧
        c.proc.minF ≤ r.length ∧ r.length ≤ (c.proc.K - 1) + c.proc.maxF := by
  intro p tr i r ms g1 g2
  obtain ⟨hlen, hlen2, hall⟩ := pipe_c03 (F := F) c hK hmm hthr gs
  have hi : i < (triggerFrames tr).length := by
    rw [hlen2]; exact (List.getElem?_eq_some_iff.mp g2).1
  obtain ⟨pre, hpre, _, hrange, _, _, _, hhead, _, hstop, _⟩ :=
    hall i r ms .byStop (triggerFrames tr)[i] g1 g2 (List.getElem?_eq_getElem hi)
  have hL := lastMotion_pos_of_head ms hhead
  have hle := lastMotion_le ms
  have hr := hstop rfl
  have hrl : r.length = pre + ms.length := by rw [hrange]; simp
  -- with `1 ≤ minF ≤ maxF` and `1 ≤ L` the `max 1` is idle
  have hX : c.proc.minF ≤ min c.proc.maxF (lastMotion ms - 1 + c.proc.minF) := by omega
  have hX' := Nat.min_le_left c.proc.maxF (lastMotion ms - 1 + c.proc.minF)
  generalize min c.proc.maxF (lastMotion ms - 1 + c.proc.minF) = X at hr hX hX' ⊢
  refine ⟨pre, hpre, hL, hle, ?_, ?_, ?_, ?_⟩ <;> omega

/-! ## (3) in seconds -/

/-- with ring capacity `K = preview·fps + trig` (preview seconds, trigger frames) and
`maxF = max·fps ≥ 1`, no motion file — finished or not — holds more than `(preview + max)·fps + trig − 1`
frames -/
theorem pipe_file_frames_le (c : PipeCfg) (preview maxS : Nat)
    (hKs : c.proc.K = preview * c.fps + c.proc.trig) (hmaxs : c.proc.maxF = maxS * c.fps)
    (hK : 0 < c.proc.K) (hmm : c.proc.minF ≤ c.proc.maxF) (hmax1 : 1 ≤ c.proc.maxF)
    (hthr : c.throttle = false) (gs : List GOp) :
    ∀ r ∈ motionFiles (runG F c gs), r.length ≤ (preview + maxS) * c.fps + c.proc.trig - 1 := by
  intro r hr
  obtain ⟨_, h⟩ := pipe_file_length (F := F) c hK hmm hthr gs r hr
  rw [Nat.add_mul]
  rw [hKs, hmaxs] at h
  rw [hKs] at hK
  rw [hmaxs] at hmax1
  omega

/-- … and a file closed by the length rule holds at least `min·fps` frames (`minF = min·fps ≥ 1`) -/
theorem pipe_file_frames_ge (c : PipeCfg) (minS : Nat) (hmins : c.proc.minF = minS * c.fps)
    (hK : 0 < c.proc.K) (hmm : c.proc.minF ≤ c.proc.maxF) (h1 : 1 ≤ c.proc.minF)
    (hthr : c.throttle = false) (gs : List GOp) :
    let p := runG F c gs
    let tr := PState.trace c.proc (PState.init c.proc) (evsG F c gs)
    ∀ (i : Nat) (r : List Nat) (ms : List Bool), (motionFiles p)[i]? = some r → (recordingsOf tr)[i]? = some (ms, .byStop) →
      minS * c.fps ≤ r.length := by
  intro p tr i r ms g1 g2
  obtain ⟨pre, _, _, _, _, _, h, _⟩ := pipe_c03_stopped (F := F) c hK hmm h1 hthr gs i r ms g1 g2
  rw [← hmins]; exact h

end pipeline

/-! ## (4) non-vacuity -/

section examples
open TR.PipeLemmas.Tiny

/-- a socket item with both gates open -/
private def it (i : Socket.Item) : GOp := ⟨true, true, .item i⟩

/-- per motion file: (ids, number of pre-trigger frames, number of frames from the trigger frame on, end kind) —
computed from the three lists the theorems speak about -/
def splitOf (F : FloatOps) (c : PipeCfg) (gs : List GOp) : List (List Nat × Nat × Nat × EndKind) :=
  let tr := PState.trace c.proc (PState.init c.proc) (evsG F c gs)
  ((motionFiles (runG F c gs)).zip ((triggerFrames tr).zip (recordingsOf tr))).map
    fun x => (x.1, x.2.1 - x.1.headD 0, x.2.2.1.length, x.2.2.2)

/-- the history of `Props.C01Spec` on the tiny pipeline (`K = 3`, `minF = 2`, `maxF = 10`, `trig = 1`; one-diff
detection: every change of scene is motion): cold, cold, hot, hot, hot, `clear`, a test request, cold, hot, hot,
a rejected frame, hot -/
private def hist : List GOp :=
  [it cold, it cold, it hot, it hot, it hot, it .clear, ⟨true, true, .testReq⟩, it cold, it hot, it hot, it badf,
   it hot]

set_option maxRecDepth 20000 in
/-- two motion files; the id lists, the trigger frames, the motion bits with the end kinds -/
example :
    let tr := PState.trace c0.proc (PState.init c0.proc) (evsG F0 c0 hist)
    motionFiles (runG F0 c0 hist) = [[0, 1, 2, 3], [4, 5, 6, 7]] ∧ triggerFrames tr = [2, 6] ∧
    recordingsOf tr = [([true, false], .byStop), ([true, false], .byStop)] := by decide +kernel

set_option maxRecDepth 20000 in
/-- the (pre, post) split: both files have the full reach `K − 1 = 2` before their trigger frames 2 and 6 and
`min maxF (L − 1 + minF) = min 10 (1 − 1 + 2) = 2` frames from the trigger frame on -/
example : splitOf F0 c0 hist = [([0, 1, 2, 3], 2, 2, .byStop), ([4, 5, 6, 7], 2, 2, .byStop)] := by decide +kernel

/-- cold, hot, cold, cold, hot, hot, cold, cold ×4, hot, a rejected frame -/
private def hist2 : List GOp :=
  [it cold, it hot, it cold, it cold, it hot, it hot, it cold, it cold, it cold, it cold, it cold, it hot, it badf]

set_option maxRecDepth 20000 in
/-- four files: trigger at frame 1 — only one pre-trigger frame exists (start-up), motion on frames 1 and 2,
`L = 2`, so `2 − 1 + 2 = 3` frames from the trigger on; triggers at 4 and 6 — no pre-trigger frame, each file
begins right after the previous one; trigger at 11 — full reach 9, 10, cut by the rejected frame after one
frame (`1 < min 10 (1 − 1 + 2)`) -/
example : splitOf F0 c0 hist2 =
    [([0, 1, 2, 3], 1, 3, .byStop), ([4, 5], 0, 2, .byStop), ([6, 7], 0, 2, .byStop),
     ([9, 10, 11], 2, 1, .byBadOrReset)] := by decide +kernel

set_option maxRecDepth 20000 in
/-- the same history without the rejected frame: the last file is still open -/
example : (splitOf F0 c0 hist2.dropLast).getLast? = some ([9, 10, 11], 2, 1, .stillOpen) := by decide +kernel

/-- the tiny configuration with `minF = 0` -/
private def cZ : PipeCfg := { c0 with proc := { c0.proc with minF := 0 } }

set_option maxRecDepth 20000 in
/-- **the form `r.length = pre + min maxF (L − 1 + minF)` is FALSE for `minF = 0`**: cold, hot — the file is
closed by the length rule at its trigger frame, which is written (`pre = 1`, one frame from the trigger on, `L = 1`),
while `min maxF (L − 1 + minF) = 0`.  `pipe_c03` has `max 1 (…)`; `pipe_c03_stopped` assumes `1 ≤ minF`. -/
example :
    cZ.throttle = false ∧ 0 < cZ.proc.K ∧ cZ.proc.minF ≤ cZ.proc.maxF ∧
    splitOf F0 cZ [it cold, it hot] = [([0, 1], 1, 1, .byStop)] ∧
    min cZ.proc.maxF (lastMotion [true] - 1 + cZ.proc.minF) = 0 := by decide +kernel

set_option maxRecDepth 20000 in
/-- … and the bound `r.length ≤ (K − 1) + maxF` is FALSE for `maxF = 0` (with `minF = 0 ≤ maxF`): cold, cold, hot —
three frames, `K − 1 + maxF = 2`.  `pipe_file_length` has `max 1 maxF`; `pipe_c03_stopped` assumes `1 ≤ minF ≤ maxF`. -/
example :
    let cM : PipeCfg := { c0 with proc := { c0.proc with minF := 0, maxF := 0 } }
    cM.throttle = false ∧ 0 < cM.proc.K ∧ cM.proc.minF ≤ cM.proc.maxF ∧
    splitOf F0 cM [it cold, it cold, it hot] = [([0, 1, 2], 2, 1, .byStop)] ∧
    cM.proc.K - 1 + cM.proc.maxF = 2 := by decide +kernel

end examples

end TR.PipeC03
