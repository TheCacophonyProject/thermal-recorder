import Props.C10Pipe
import Proofs.C10PipeThr
import TR.Pipeline
/-!
# C10 for every frame history, THROTTLED wiring — what reaches the motion file recorder is the throttle's base calls

`Props.C10Pipe` composes C12 (the processor drives its three sinks `WellFormed`ly) with C10 (a `ValidOps` sequence
keeps every `.cptv` name complete at every system call) for the wiring in which the processor's motion sink IS the
`CPTVFileRecorder`.  With `thermal-throttler.activate` set, `handleConn` puts a `ThrottledRecorder` between the two
(one per connection, with a fresh, full bucket): the motion file recorder then sees the throttle's BASE calls
(`TObs.bStart / bWrite / bStop` of `TR.Throttle`), not the processor's calls.  The test and the continuous recorder are
wired as before.

**The translation `thrObs`.**  Walk the processor's observations; keep everything that is not a call on the motion
sink; keep `CheckCanRecord` on the motion sink (the throttle passes it through); turn every other call on the motion
sink into a throttle request (`reqOf`), run `TState.step`, and emit the base calls of that step as calls on the motion
sink (`baseObs`; `throttled` and the value returned upstream are dropped).  The environment `Env` gives, for the `k`-th
request: the tick of the clock, the tag, and the outcomes of `base.StartRecording` (on the restart path of a write)
and `base.WriteFrame`.  Two outcomes are NOT free:
* a `.start` request carries the `ok` the processor observed: `ThrottledRecorder.StartRecording` returns exactly the
  base recorder's error when it calls it, and `nil` when it does not — so when the base recorder is called its outcome
  IS what the processor sees (and when it is not called the outcome is not used).  Letting the two differ would
  describe a processor that was told "failed" by a throttle that started a file;
* every `base.StopRecording` succeeds (`.stop true`, `.write … true`), as in `Props.C10Pipe`: `TR.FS` has no
  operation for a failing stop.
The `ok` of the processor's `.write` and `.stop` observations (what the throttle returned upstream) is not used.

**What is proved** — for every environment (clock, tags, base failures of start and write), every bucket
`(cap, q, minLen)`:
* `thr_wellFormed` — if every sink's calls in `os` are `WellFormed`, so are they in `thrObs … os`: the test and
  continuous sinks see the same calls (`thr_other_sinks`); on the motion sink the base calls are in order
  (per request: `Proofs.C10PipeThr.step_*_base`, from the equations of `TState.step`; between requests: the throttle
  records only while the upstream recording is open).
* `thr_stopsSucceed` — no failing stop in `thrObs … os`, provided none on the test / continuous sink in `os`.
* `pipe_thr_exact`, `pipe_thr_ops_valid`, `pipe_thr_ops_valid_from` — on the model's traces (`0 < c.K`) the translation
  to file-system operations is `Exact` and `ValidOps`; `pipe_thr_c10_every_instant`, `pipe_thr_c10_cleanup` — C10 for
  one throttled connection.
* `pipe_thr_c10_connections`, `pipe_thr_lives_valid`, `pipe_thr_c10_lives` — several connections per daemon life and a
  whole history of lives, each connection throttled or not (`TConn.thr`), each with its own bucket and environment.
* `motionCall_eq_thrStep` — the tie to the composed model `TR.Pipeline`: with the environment `Pipe.motionCall` uses
  (`envPipe`: tick 0, tag 0, no base failure) one processor call on the motion sink has, through `thrStep`, exactly the
  effect `motionCall` has on the pipeline's files and throttle state.
-/
namespace TR.C10PipeThr
open TR.FS TR.C10 TR.C10Gen TR.C12Spec TR.C10Pipe

/-- what the world decides during the `k`-th request the processor makes of the throttle (`k` counts the
`StartRecording` / `WriteFrame` / `StopRecording` calls on the motion sink, from 0) -/
structure Env where
  /-- the bucket's tick (`(now − startTime) / fillInterval`) at that request — NOT assumed monotone -/
  tick : Nat → Nat := fun _ => 0
  /-- the background / threshold handed to a start request -/
  tag : Nat → Nat := fun _ => 0
  /-- outcome of `base.StartRecording` if that request is a write that tries to (re)start -/
  bStart : Nat → Bool := fun _ => true
  /-- outcome of `base.WriteFrame` if that request is a write that is forwarded -/
  bWrite : Nat → Bool := fun _ => true

/-- the throttle request a processor call on the motion sink becomes (`ok` = the outcome the processor observed);
`CheckCanRecord` is not a request -/
def reqOf (e : Env) (k : Nat) : Call → Bool → Option TReq
  | .start, ok => some (.start (e.tick k) (e.tag k) ok)
  | .write id, _ => some (.write (e.tick k) id (e.bStart k) (e.bWrite k) true)
  | .stop, _ => some (.stop true)
  | .can, _ => none

/-- a call of the throttle on the base recorder = a call on the motion FILE recorder -/
def baseObs : TObs → Option Obs
  | .bStart _ ok => some (.call .motion .start ok)
  | .bWrite id ok => some (.call .motion (.write id) ok)
  | .bStop ok => some (.call .motion .stop ok)
  | _ => none

/-- one observation of the processor, seen from the file recorders: state = (number of requests so far, throttle) -/
def thrStep (e : Env) (kt : Nat × TState) : Obs → (Nat × TState) × List Obs
  | .call .motion c ok =>
    match reqOf e kt.1 c ok with
    | none => (kt, [.call .motion c ok])
    | some r => ((kt.1 + 1, (kt.2.step r).1), (kt.2.step r).2.filterMap baseObs)
  | o => (kt, [o])

def thrObsFrom (e : Env) : Nat × TState → List Obs → List Obs
  | _, [] => []
  | kt, o :: os => (thrStep e kt o).2 ++ thrObsFrom e (thrStep e kt o).1 os

/-- **what the three file recorders see in the throttled wiring** when the processor's observations are `os`:
a fresh throttle with bucket capacity `cap`, quantum `q`, minimum recording length `minLen` -/
def thrObs (e : Env) (cap q minLen : Nat) (os : List Obs) : List Obs :=
  thrObsFrom e (0, TState.init cap q minLen) os

/-- every `StopRecording` on the continuous and on the test recorder succeeds (the motion sink's outcomes are what
the throttle returns; they play no role) -/
def CTStopsSucceed (os : List Obs) : Prop :=
  Obs.call .const .stop false ∉ os ∧ Obs.call .test .stop false ∉ os

/-- the throttle of one connection: environment and bucket -/
structure Thr where
  env : Env
  cap : Nat
  q : Nat
  minLen : Nat

/-- one camera connection: processor configuration, events, and the throttle (`none`: `activate = false`) -/
structure TConn where
  cfg : PCfg
  evs : List Ev
  thr : Option Thr

/-- what the file recorders see during that connection -/
def TConn.obs (x : TConn) : List Obs :=
  match x.thr with
  | none => C10Pipe.obsOf x.cfg x.evs
  | some b => thrObs b.env b.cap b.q b.minLen (C10Pipe.obsOf x.cfg x.evs)

/-- `Props.C10Pipe.connsOps` over connections of either wiring -/
def connsOpsT (leaves : Nat → Bool) : Nat → List TConn → Nat × List Op
  | n, [] => (n, [])
  | n, p :: ps =>
    let r := fsOps leaves { next := n } p.obs
    let r' := connsOpsT leaves r.1.next ps
    (r'.1, r.2 ++ endOps r.1 ++ r'.2)

/-- one life of the daemon (`Props.C10Pipe.DLife`) over connections of either wiring -/
structure TLife where
  conns : List TConn
  kill : Nat

def livesOfT (leaves : Nat → Bool) : Nat → List TLife → List Life
  | _, [] => []
  | n, l :: ls =>
    let r := connsOpsT leaves n l.conns
    ⟨r.2, (r.2.flatMap Op.steps).take l.kill⟩ :: livesOfT leaves r.1 ls

theorem thrObsFrom_cons (e : Env) (kt : Nat × TState) (o : Obs) (os : List Obs) :
    thrObsFrom e kt (o :: os) = (thrStep e kt o).2 ++ thrObsFrom e (thrStep e kt o).1 os := rfl

/-- the base calls of a step, read back with `callsOf`: all on the motion sink -/
theorem callsOf_baseObs (s : Sink) (l : List TObs) :
    callsOf s (l.filterMap baseObs) = if s = .motion then baseCallsOf l else [] := by
  rw [callsOf, List.filterMap_filterMap]
  cases s
  case motion => exact congrArg (List.filterMap · l) (funext fun o => by cases o <;> rfl)
  all_goals exact List.filterMap_eq_nil_iff.mpr fun o _ => by cases o <;> rfl

theorem mem_baseObs_stop {s : Sink} {b : Bool} {l : List TObs} (h : Obs.call s .stop b ∈ l.filterMap baseObs) :
    TObs.bStop b ∈ l := by
  obtain ⟨o, ho, he⟩ := List.mem_filterMap.mp h
  cases o <;> cases he
  exact ho

/-- **one observation, on the motion sink**: while the throttle records only if the upstream recording is open
(`u`), an observation that is in order from `u` makes the throttle emit base calls that are in order from
`t.recording` and leave the base recorder open iff the throttle records afterwards, and then the upstream recording
is open as well -/
theorem thrStep_motion (e : Env) (k : Nat) (t : TState) (u : Bool) (hinv : t.recording = true → u = true) :
    ∀ o : Obs, scanAll nextOpen okWhen u (callsOf .motion [o]) = true →
    scanAll nextOpen okWhen t.recording (callsOf .motion (thrStep e (k, t) o).2) = true ∧
    (callsOf .motion (thrStep e (k, t) o).2).foldl nextOpen t.recording = (thrStep e (k, t) o).1.2.recording ∧
    ((thrStep e (k, t) o).1.2.recording = true → (callsOf .motion [o]).foldl nextOpen u = true) := by
  have cb : ∀ l, callsOf .motion (l.filterMap baseObs) = baseCallsOf l :=
    fun l => (callsOf_baseObs .motion l).trans (if_pos rfl)
  intro o hw
  match o, hw with
  | .call .motion .start ok, hw =>
    have hr : t.recording = false := by
      cases h : t.recording
      · rfl
      · rw [hinv h] at hw; cases hw
    obtain ⟨h1, h2, h3⟩ := step_start_base t (e.tick k) (e.tag k) ok hr
    rw [← hr, ← cb] at h1 h2
    exact ⟨h1, h2, fun h => by rw [h3 h]; rfl⟩
  | .call .motion (.write id) _, hw =>
    obtain ⟨h1, h2, _⟩ := step_write_base t (e.tick k) id (e.bStart k) (e.bWrite k) true
    rw [← cb] at h1 h2
    exact ⟨h1, h2, fun _ => (Bool.and_true u).symm.trans hw⟩
  | .call .motion .stop _, _ =>
    obtain ⟨h1, h2, h3, _⟩ := step_stop_base t true
    rw [← cb] at h1 h2
    exact ⟨h1, h2, fun h => Bool.noConfusion (h3.symm.trans h)⟩
  | .call .motion .can _, _ | .call .const _ _, _ | .call .test _ _, _ | .md, _ | .rs, _ | .re, _ | .panic, _ =>
    exact ⟨rfl, rfl, hinv⟩

theorem thrObsFrom_motion (e : Env) : ∀ (os : List Obs) (k : Nat) (t : TState) (u : Bool),
    (t.recording = true → u = true) → scanAll nextOpen okWhen u (callsOf .motion os) = true →
    scanAll nextOpen okWhen t.recording (callsOf .motion (thrObsFrom e (k, t) os)) = true := by
  intro os
  induction os with
  | nil => intro k t u _ _; rfl
  | cons o os ih =>
    intro k t u hinv hw
    rw [← List.singleton_append, callsOf_append, scanAll_append, Bool.and_eq_true] at hw
    obtain ⟨h1, h2, h3⟩ := thrStep_motion e k t u hinv o hw.1
    rw [thrObsFrom_cons, callsOf_append, scanAll_append, h1, h2, Bool.true_and]
    exact ih _ _ _ h3 hw.2

/-- one observation, on another sink: nothing is added or taken away -/
theorem thrStep_other (e : Env) (kt : Nat × TState) {s : Sink} (hs : s ≠ .motion) :
    ∀ o : Obs, callsOf s (thrStep e kt o).2 = callsOf s [o]
  | .call .motion .start _ | .call .motion (.write _) _ | .call .motion .stop _ =>
    (callsOf_baseObs s _).trans ((if_neg hs).trans ((callsOf_cons_call _ s _ _ []).trans (if_neg (Ne.symm hs))).symm)
  | .call .motion .can _ | .call .const _ _ | .call .test _ _ | .md | .rs | .re | .panic => rfl

theorem thrObsFrom_other (e : Env) (s : Sink) (hs : s ≠ .motion) : ∀ (os : List Obs) (kt : Nat × TState),
    callsOf s (thrObsFrom e kt os) = callsOf s os
  | [], _ => rfl
  | o :: os, kt => by
    rw [thrObsFrom_cons, callsOf_append, thrStep_other e kt hs, thrObsFrom_other e s hs os, ← callsOf_append]
    rfl

/-- one observation: a failing stop among what the file recorders see is the processor's own, on the test or the
continuous sink (the throttle's stops carry the outcome `reqOf` dictates: `true`) -/
theorem thrStep_stop_false (e : Env) (kt : Nat × TState) {s : Sink} :
    ∀ o : Obs, Obs.call s .stop false ∈ (thrStep e kt o).2 → s ≠ .motion ∧ o = .call s .stop false
  | .call .motion .start ok, h =>
    Bool.noConfusion (stopsAre_mem (step_start_noStop kt.2 _ _ ok true) (mem_baseObs_stop h))
  | .call .motion (.write id) _, h =>
    Bool.noConfusion (stopsAre_mem (step_write_base kt.2 _ id _ _ true).2.2 (mem_baseObs_stop h))
  | .call .motion .stop _, h => Bool.noConfusion (stopsAre_mem (step_stop_base kt.2 true).2.2.2 (mem_baseObs_stop h))
  | .call .motion .can _, h | .md, h | .rs, h | .re, h | .panic, h => nomatch List.mem_singleton.mp h
  | .call .const _ _, h | .call .test _ _, h => by cases List.mem_singleton.mp h; exact ⟨Sink.noConfusion, rfl⟩

theorem mem_thrObsFrom (e : Env) {x : Obs} : ∀ (os : List Obs) (kt : Nat × TState),
    x ∈ thrObsFrom e kt os → ∃ o ∈ os, ∃ kt', x ∈ (thrStep e kt' o).2
  | o :: os, kt, h => by
    rcases List.mem_append.mp h with h | h
    · exact ⟨o, List.mem_cons_self .., kt, h⟩
    · obtain ⟨o', ho', r⟩ := mem_thrObsFrom e os _ h
      exact ⟨o', List.mem_cons_of_mem _ ho', r⟩

/-! ### connections and lives, either wiring (as in `Props.C10Pipe`, over `TConn.obs`) -/

/-- the connections of one life, either wiring -/
theorem connsOpsT_spec (leaves : Nat → Bool) : ∀ (conns : List TConn) (n : Nat),
    Block n (connsOpsT leaves n conns).1 (connsOpsT leaves n conns).2 := by
  intro conns
  induction conns with
  | nil => exact Block.nil
  | cons p ps ih => intro n; exact conn_then leaves p.obs n (ih _)

/-- the test and the continuous recorder see exactly the calls the processor makes on them -/
theorem thr_other_sinks (e : Env) (cap q minLen : Nat) (os : List Obs) :
    callsOf .const (thrObs e cap q minLen os) = callsOf .const os ∧
    callsOf .test (thrObs e cap q minLen os) = callsOf .test os :=
  ⟨thrObsFrom_other e .const (by decide) os _, thrObsFrom_other e .test (by decide) os _⟩

/-- **the throttle's base calls obey the sink protocol**: whenever the processor's calls are `WellFormed` on every
sink, so are the calls the three file recorders see in the throttled wiring — for every clock, every tag, every
pattern of base start / write failures, every bucket -/
theorem thr_wellFormed (e : Env) (cap q minLen : Nat) (os : List Obs) (hw : ∀ s, WellFormed (callsOf s os)) :
    ∀ s, WellFormed (callsOf s (thrObs e cap q minLen os)) := by
  intro s
  cases s with
  | motion =>
    exact (wellFormed_iff _).mpr
      (thrObsFrom_motion e os 0 (TState.init cap q minLen) false (fun h => by cases h)
        ((wellFormed_iff _).mp (hw .motion)))
  | const => rw [(thr_other_sinks e cap q minLen os).1]; exact hw .const
  | test => rw [(thr_other_sinks e cap q minLen os).2]; exact hw .test

/-- no stop fails in the throttled wiring if none fails on the test / continuous recorder (base stops succeed by
construction of `reqOf`) -/
theorem thr_stopsSucceed (e : Env) (cap q minLen : Nat) (os : List Obs) (h : CTStopsSucceed os) :
    StopsSucceed (thrObs e cap q minLen os) := by
  intro s hm
  obtain ⟨o, ho, kt, hm⟩ := mem_thrObsFrom e os _ hm
  obtain ⟨hs, rfl⟩ := thrStep_stop_false e kt o hm
  cases s with
  | motion => exact hs rfl
  | const => exact h.1 ho
  | test => exact h.2 ho

/-- `CTStopsSucceed` follows from `StopsSucceed`, hence (`stopsSucceed_of_faults`) from fault records that dictate no
failing stop -/
theorem ctStops_of_stopsSucceed {os : List Obs} (h : StopsSucceed os) : CTStopsSucceed os := ⟨h .const, h .test⟩

theorem ctStops_of_faults (c : PCfg) (evs : List Ev) (h : ∀ e ∈ evs, StopFaultFree e) :
    CTStopsSucceed (C10Pipe.obsOf c evs) :=
  ctStops_of_stopsSucceed (stopsSucceed_of_faults c evs h)

/-- **C12 carried through the throttle (`thr_wellFormed`)**: on every trace of the processor model (ring capacity ≥ 1, any events, any
fault placement in which the test / continuous stops succeed), with any environment and any bucket, from any id
counter, the translation of what the file recorders see is exact: every `WriteFrame` that reaches a file recorder finds
its open file, every `StartRecording` finds the recorder closed, no stop fails -/
theorem pipe_thr_exact (leaves : Nat → Bool) (c : PCfg) (hK : 0 < c.K) (evs : List Ev)
    (hstop : CTStopsSucceed (C10Pipe.obsOf c evs)) (e : Env) (cap q minLen : Nat) (n : Nat) :
    Exact leaves { next := n } (thrObs e cap q minLen (C10Pipe.obsOf c evs)) :=
  exact_of_wellFormed leaves _ n (thr_wellFormed e cap q minLen _ (c12_wellformed c hK evs).2)
    (thr_stopsSucceed e cap q minLen _ hstop)

/-- **(1)** the file-system operations of a throttled connection — exactly those (`Exact`) — obey the recorder
protocol, with the connection ended (`endOps`: `handleConn`'s deferred `cptvRecorder.Stop()` on the BASE motion
recorder) and with the connection still running -/
theorem pipe_thr_ops_valid (leaves : Nat → Bool) (c : PCfg) (hK : 0 < c.K) (evs : List Ev)
    (hstop : CTStopsSucceed (C10Pipe.obsOf c evs)) (e : Env) (cap q minLen : Nat) :
    Exact leaves {} (thrObs e cap q minLen (C10Pipe.obsOf c evs)) ∧
    ValidOps [] [] ((fsOps leaves {} (thrObs e cap q minLen (C10Pipe.obsOf c evs))).2 ++
      endOps (fsOps leaves {} (thrObs e cap q minLen (C10Pipe.obsOf c evs))).1) ∧
    ValidOps [] [] (fsOps leaves {} (thrObs e cap q minLen (C10Pipe.obsOf c evs))).2 :=
  ⟨pipe_thr_exact leaves c hK evs hstop e cap q minLen 0, ops_valid_any leaves _ 0 [] [] (fun _ h => by cases h)⟩

/-- **(1), from any id counter**: ids are ≥ `n`, and the operations are valid after any `used` below `n` -/
theorem pipe_thr_ops_valid_from (leaves : Nat → Bool) (c : PCfg) (hK : 0 < c.K) (evs : List Ev)
    (hstop : CTStopsSucceed (C10Pipe.obsOf c evs)) (e : Env) (cap q minLen : Nat) (n : Nat) (used : List Nat)
    (hused : ∀ x ∈ used, x < n) :
    Exact leaves { next := n } (thrObs e cap q minLen (C10Pipe.obsOf c evs)) ∧
    ValidOps [] used ((fsOps leaves { next := n } (thrObs e cap q minLen (C10Pipe.obsOf c evs))).2 ++
      endOps (fsOps leaves { next := n } (thrObs e cap q minLen (C10Pipe.obsOf c evs))).1) ∧
    ValidOps [] used (fsOps leaves { next := n } (thrObs e cap q minLen (C10Pipe.obsOf c evs))).2 ∧
    ∀ x ∈ startedIds (fsOps leaves { next := n } (thrObs e cap q minLen (C10Pipe.obsOf c evs))).2,
      n ≤ x ∧ x < (fsOps leaves { next := n } (thrObs e cap q minLen (C10Pipe.obsOf c evs))).1.next :=
  ⟨pipe_thr_exact leaves c hK evs hstop e cap q minLen n, (ops_valid_any leaves _ n [] used hused).1,
   (ops_valid_any leaves _ n [] used hused).2, (ops_ids leaves _ n).2⟩

/-- **(2)** at every instant (= after every prefix of the system calls) of a throttled connection, including its
end, every `.cptv` name is a complete recording never written in place -/
theorem pipe_thr_c10_every_instant (leaves : Nat → Bool) (c : PCfg) (hK : 0 < c.K) (evs : List Ev)
    (hstop : CTStopsSucceed (C10Pipe.obsOf c evs)) (e : Env) (cap q minLen : Nat) (pre : List Sys)
    (hp : pre <+: ((fsOps leaves {} (thrObs e cap q minLen (C10Pipe.obsOf c evs))).2 ++
      endOps (fsOps leaves {} (thrObs e cap q minLen (C10Pipe.obsOf c evs))).1).flatMap Op.steps) :
    (Dir.run {} pre).ok = true :=
  c10_every_crash_point_ok _ (pipe_thr_ops_valid leaves c hK evs hstop e cap q minLen).2.1 pre hp

/-- **(2')** and start-up clean-up of the state at that instant leaves complete recordings only -/
theorem pipe_thr_c10_cleanup (leaves : Nat → Bool) (c : PCfg) (hK : 0 < c.K) (evs : List Ev)
    (hstop : CTStopsSucceed (C10Pipe.obsOf c evs)) (e : Env) (cap q minLen : Nat) (pre : List Sys)
    (hp : pre <+: ((fsOps leaves {} (thrObs e cap q minLen (C10Pipe.obsOf c evs))).2 ++
      endOps (fsOps leaves {} (thrObs e cap q minLen (C10Pipe.obsOf c evs))).1).flatMap Op.steps) :
    ∀ p ∈ (Dir.run {} pre).cleanup.files, p.1.kind = Kind.F ∧ p.2 = Status.complete :=
  c10_cleanup_leaves_only_complete _ (pipe_thr_ops_valid leaves c hK evs hstop e cap q minLen).2.1 pre hp

/-- every connection, throttled or not, is translated exactly (from any id counter) -/
theorem tconn_exact (leaves : Nat → Bool) (x : TConn) (hK : 0 < x.cfg.K)
    (hstop : match x.thr with
      | none => StopsSucceed (C10Pipe.obsOf x.cfg x.evs)
      | some _ => CTStopsSucceed (C10Pipe.obsOf x.cfg x.evs)) (n : Nat) :
    Exact leaves { next := n } x.obs := by
  obtain ⟨cfg, evs, thr⟩ := x
  cases thr with
  | none => exact pipe_exact leaves cfg hK evs hstop n
  | some b => exact pipe_thr_exact leaves cfg hK evs hstop b.env b.cap b.q b.minLen n

/-- **(3)** several camera connections in one daemon life, each throttled (own bucket, own environment) or not: every
connection is translated exactly, and the concatenated operation list obeys the recorder protocol -/
theorem pipe_thr_c10_connections (leaves : Nat → Bool) (conns : List TConn)
    (hK : ∀ x ∈ conns, 0 < x.cfg.K)
    (hstop : ∀ x ∈ conns, match x.thr with
      | none => StopsSucceed (C10Pipe.obsOf x.cfg x.evs)
      | some _ => CTStopsSucceed (C10Pipe.obsOf x.cfg x.evs)) :
    (∀ x ∈ conns, ∀ n, Exact leaves { next := n } x.obs) ∧
    ValidOps [] [] (connsOpsT leaves 0 conns).2 :=
  ⟨fun x hx n => tconn_exact leaves x (hK x hx) (hstop x hx) n,
   (connsOpsT_spec leaves conns 0).valid [] [] (fun _ h => by cases h)⟩

/-- (3), from any id counter and after any `used` below it; the ids started lie between the counters -/
theorem pipe_thr_connections_from (leaves : Nat → Bool) (conns : List TConn) (n : Nat) (used : List Nat)
    (hused : ∀ x ∈ used, x < n) :
    ValidOps [] used (connsOpsT leaves n conns).2 ∧
    ∀ x ∈ startedIds (connsOpsT leaves n conns).2, n ≤ x ∧ x < (connsOpsT leaves n conns).1 :=
  ⟨(connsOpsT_spec leaves conns n).valid [] used hused, (connsOpsT_spec leaves conns n).ids⟩

/-- with no throttled connection `connsOpsT` / `livesOfT` are `connsOps` / `livesOf` of `Props.C10Pipe` -/
theorem connsOpsT_unthrottled (leaves : Nat → Bool) : ∀ (conns : List (PCfg × List Ev)) (n : Nat),
    connsOpsT leaves n (conns.map fun p => ⟨p.1, p.2, none⟩) = connsOps leaves n conns := by
  intro conns
  induction conns with
  | nil => intro n; rfl
  | cons p ps ih =>
    intro n
    show (_, _) = (_, _)
    simp only [TConn.obs, ih]

theorem livesOfT_unthrottled (leaves : Nat → Bool) : ∀ (hist : List DLife) (n : Nat),
    livesOfT leaves n (hist.map fun l => ⟨l.conns.map fun p => ⟨p.1, p.2, none⟩, l.kill⟩) =
      livesOf leaves n hist := by
  intro hist
  induction hist with
  | nil => intro n; rfl
  | cons l ls ih =>
    intro n
    rw [List.map_cons]
    simp only [livesOfT, livesOf, connsOpsT_unthrottled, ih]

/-- **(3') a whole history of lives**, each a list of connections of either wiring, each killed after `kill` system
calls: a valid history in the sense of `Props.C10Gen` -/
theorem pipe_thr_lives_valid (leaves : Nat → Bool) : ∀ (hist : List TLife) (n : Nat) (used : List Nat),
    (∀ x ∈ used, x < n) → ValidLives used (livesOfT leaves n hist) := by
  intro hist
  induction hist with
  | nil => intro n used _; exact .nil
  | cons l ls ih =>
    intro n used hu
    exact life_then (connsOpsT_spec leaves l.conns n) l.kill hu fun used' hu' => ih _ used' hu'

/-- **(3'') C10 over every history of frame histories, throttle on or off in each connection**: in life number `k`,
at every system call up to its kill (after the kills, restarts and clean-ups of the lives before it), every `.cptv`
name is a complete recording never written in place, and cleaning up leaves complete recordings only -/
theorem pipe_thr_c10_lives (leaves : Nat → Bool) (hist : List TLife) (k : Nat)
    (hk : k < (livesOfT leaves 0 hist).length) (pre : List Sys) (hp : pre <+: (livesOfT leaves 0 hist)[k].pre) :
    ((afterLives {} ((livesOfT leaves 0 hist).take k)).run pre).ok = true ∧
      ∀ p ∈ ((afterLives {} ((livesOfT leaves 0 hist).take k)).run pre).cleanup.files,
        p.1.kind = Kind.F ∧ p.2 = Status.complete :=
  c10_generations_whole_history _ (pipe_thr_lives_valid leaves hist 0 [] (fun _ h => by cases h)) k hk pre hp

/-! ## The tie to the composed model `TR.Pipeline` -/

section pipeline
variable {F : FloatOps}

/-- the environment `Pipe.motionCall` uses: every request at tick 0 with tag 0, no base failure -/
def envPipe : Env := {}

/-- what a call that reaches the motion FILE recorder does to the pipeline's abstract files (`Pipe.applyTObs`, read
through `baseObs`) -/
def applyBaseObs (c : PipeCfg) (p : Pipe F) : Obs → Pipe F
  | .call .motion .start _ => Pipe.startFile c p .motion p.threshOfStart
  | .call .motion (.write id) _ => Pipe.writeFile p .motion id
  | .call .motion .stop _ => Pipe.stopFile p .motion
  | _ => p

/-- `motionCall` stores the detector's threshold at an upstream start, before the request is made -/
def stampStart (p : Pipe F) : Call → Pipe F
  | .start => { p with threshOfStart := p.det.tempThresh }
  | _ => p

theorem foldl_applyBaseObs (c : PipeCfg) : ∀ (l : List TObs) (p : Pipe F),
    (l.filterMap baseObs).foldl (applyBaseObs c) p = l.foldl (Pipe.applyTObs c) p := by
  intro l
  induction l with
  | nil => intro p; rfl
  | cons o l ih =>
    intro p
    cases o <;> simp only [List.filterMap_cons, baseObs, List.foldl_cons, ih] <;> rfl

/-- **`thrObs` is the wiring of `TR.Pipeline`.**  With the throttle on, one processor call on the motion sink (the
pipeline model only has successful ones) acts on the pipeline exactly as `thrStep` says, in the environment `envPipe`
and whatever the request count `k`: the throttle state becomes the one `thrStep` reaches, and the files change as the
calls `thrStep` emits for the motion file recorder dictate -/
theorem motionCall_eq_thrStep (c : PipeCfg) (hthr : c.throttle = true) (p : Pipe F) (k : Nat) (call : Call) :
    Pipe.motionCall c p call =
      (thrStep envPipe (k, p.thr) (.call .motion call true)).2.foldl (applyBaseObs c)
        { stampStart p call with thr := (thrStep envPipe (k, p.thr) (.call .motion call true)).1.2 } := by
  unfold Pipe.motionCall
  rw [if_pos hthr]
  cases call with
  | can => rfl
  | _ => exact (foldl_applyBaseObs c _ _).symm

end pipeline

instance (os : List Obs) : Decidable (CTStopsSucceed os) := by unfold CTStopsSucceed; infer_instance

/-- ring of 3, recordings of 2 to 20 frames, trigger on the first motion frame, no continuous recorder, test
recordings of 2 frames -/
private def cfg : PCfg := ⟨3, 2, 20, 1, false, 1⟩

/-- a still frame, a test request, twelve motion frames (ids 1 … 12; the recording starts at frame 1 with the
pre-trigger frame 0), two still frames (the recording stops after frame 13) -/
private def evs : List Ev :=
  [.frame false {}, .testReq] ++ List.replicate 12 (.frame true {}) ++ [.frame false {}, .frame false {}]

/-- one tick every two requests; `base.StartRecording` fails during request 10, `base.WriteFrame` during request 3 -/
private def env : Env := { tick := fun k => k / 2, bStart := fun k => k != 10, bWrite := fun k => k != 3 }

set_option maxRecDepth 20000 in
/-- what the processor asks of its motion sink: one recording of 14 frames (requests 0 … 15) -/
example : callsOf .motion (C10Pipe.obsOf cfg evs) =
    [(.can, true), (.start, true)] ++ (List.range 14).map (fun i => (Call.write i, true)) ++ [(.stop, true)] := by
  decide +kernel

set_option maxRecDepth 20000 in
/-- what the motion FILE recorder sees behind a throttle with a bucket of 3 frames, one frame per tick, minimum
recording length 2: frames 0 … 5 (the write of frame 2 failing in the base recorder), the CUT when frame 6 finds the
bucket empty, frames 6 … 8 dropped while fewer than 2 tokens are back, a restart attempt on frame 9 that FAILS in the
base recorder (frame 9 is lost), the restart on frame 10, frames 10 … 13, and the processor's stop -/
example : callsOf .motion (thrObs env 3 1 2 (C10Pipe.obsOf cfg evs)) =
    [(.can, true), (.start, true), (.write 0, true), (.write 1, true), (.write 2, false), (.write 3, true),
     (.write 4, true), (.write 5, true), (.stop, true),
     (.start, false),
     (.start, true), (.write 10, true), (.write 11, true), (.write 12, true), (.write 13, true), (.stop, true)] := by
  decide +kernel

set_option maxRecDepth 20000 in
/-- the test recorder is untouched -/
example : callsOf .test (thrObs env 3 1 2 (C10Pipe.obsOf cfg evs)) =
    [(.start, true), (.write 1, true), (.write 2, true), (.stop, true)] ∧
    callsOf .test (C10Pipe.obsOf cfg evs) = [(.start, true), (.write 1, true), (.write 2, true), (.stop, true)] := by
  decide +kernel

private def thrOps : List Op :=
  [.start 0, .write 0, .write 0,                  -- motion file 0: frames 0, 1
   .start 1, .write 1,                            -- test recorder: file 1
   .write 0, .write 1, .stop 1,                   -- frame 2 (its write fails); the test recording ends
   .write 0, .write 0, .write 0,                  -- frames 3, 4, 5: the bucket is empty
   .stop 0,                                       -- frame 6: cut by the throttle — file 0 gets its `.cptv` name
                                                  -- frames 6, 7, 8: dropped, no operation
   .startFail 2,                                  -- frame 9: restart attempt, the header write fails: `2.cptv.temp`
   .start 3, .write 3, .write 3, .write 3, .write 3,   -- frame 10: restart — file 3: frames 10 … 13
   .stop 3]                                       -- the processor's stop

set_option maxRecDepth 20000 in
/-- the file-system operations of that connection -/
example : fsOps (fun _ => true) {} (thrObs env 3 1 2 (C10Pipe.obsOf cfg evs)) = ({ next := 4 }, thrOps) := rfl

set_option maxRecDepth 20000 in
/-- the same events without the throttle: one file of 14 frames -/
example : (fsOps (fun _ => true) {} (C10Pipe.obsOf cfg evs)).2 =
    [.start 0, .write 0, .write 0, .start 1, .write 1, .write 0, .write 1, .stop 1] ++
      List.replicate 11 (.write 0) ++ [.stop 0] := rfl

set_option maxRecDepth 20000 in
/-- the hypothesis of the theorems holds for it (by evaluation; also from the fault records) -/
example : CTStopsSucceed (C10Pipe.obsOf cfg evs) := by decide +kernel

example : CTStopsSucceed (C10Pipe.obsOf cfg evs) :=
  ctStops_of_faults _ _ (by simp [evs, StopFaultFree, Ev.faults])

/-- so the translation above is exact and valid (an instance of `pipe_thr_ops_valid`) -/
example : Exact (fun _ => true) {} (thrObs env 3 1 2 (C10Pipe.obsOf cfg evs)) :=
  (pipe_thr_ops_valid _ cfg (by decide) evs (ctStops_of_faults _ _ (by simp [evs, StopFaultFree, Ev.faults]))
    env 3 1 2).1

/-- the directory afterwards: the cut file 0, the restarted file 3 and the test recording 1 are complete recordings,
the failed restart left debris; clean-up leaves the three recordings -/
example : (Dir.run {} (thrOps.flatMap Op.steps)).files =
    [(⟨3, .F⟩, .complete), (⟨2, .T⟩, .partialData), (⟨0, .F⟩, .complete), (⟨1, .F⟩, .complete)] ∧
    (Dir.run {} (thrOps.flatMap Op.steps)).cleanup.files =
    [(⟨3, .F⟩, .complete), (⟨0, .F⟩, .complete), (⟨1, .F⟩, .complete)] := by decide +kernel

set_option maxRecDepth 20000 in
/-- the camera disconnects after frame 11: the restarted base file 3 is open (the upstream recording too) and
`handleConn`'s deferred `cptvRecorder.Stop()` discards it -/
example : fsOps (fun _ => true) {} (thrObs env 3 1 2 (C10Pipe.obsOf cfg (evs.take 13))) =
      ({ motion := some 3, next := 4 }, thrOps.take 16) ∧
    endOps { motion := some 3, next := 4 } = [.discard 3] := ⟨rfl, rfl⟩

example : (Dir.run {} ((thrOps.take 16 ++ [Op.discard 3]).flatMap Op.steps)).files =
    [(⟨2, .T⟩, .partialData), (⟨0, .F⟩, .complete), (⟨1, .F⟩, .complete)] ∧
    (Dir.run {} ((thrOps.take 16 ++ [Op.discard 3]).flatMap Op.steps)).cleanup.files =
    [(⟨0, .F⟩, .complete), (⟨1, .F⟩, .complete)] := by decide +kernel

set_option maxRecDepth 20000 in
/-- `minLen = 0`, bucket of 2 never refilled (`Props.PipeThr`, last example): after the cut every frame opens a base
file and closes it at once — eleven empty recordings; still paired, still exact, still `ValidOps` -/
example : callsOf .motion (thrObs {} 2 1 0 (C10Pipe.obsOf cfg evs)) =
    [(.can, true), (.start, true), (.write 0, true), (.write 1, true), (.stop, true)] ++
      (List.replicate 11 [(Call.start, true), (Call.stop, true)]).flatten := by decide +kernel

/-- two lives.  The first: the throttled connection above, cut short after frame 11, then an UNTHROTTLED connection of
three frames (`activate` is read from the configuration of the life, so the real daemon does not mix the wirings
within a life; the theorems allow it anyway); killed after its last system call.  The second: throttled, bucket of 2
frames never refilled (`q = 0`), killed after 20 of its 22 system calls (inside the stop of the test recording) -/
private def hist : List TLife :=
  [⟨[⟨cfg, evs.take 13, some ⟨env, 3, 1, 2⟩⟩, ⟨cfg, evs.take 5, none⟩], 70⟩,
   ⟨[⟨cfg, evs, some ⟨{}, 2, 0, 2⟩⟩], 20⟩]

set_option maxRecDepth 20000 in
example : (livesOfT (fun _ => true) 0 hist).map (·.ops) =
    [thrOps.take 16 ++ [.discard 3] ++
       [.start 4, .write 4, .write 4, .start 5, .write 5, .write 4, .write 5, .stop 5, .write 4, .discard 4],
     [.start 6, .write 6, .write 6, .start 7, .write 7, .stop 6, .write 7, .stop 7]] := rfl

set_option maxRecDepth 20000 in
example : (livesOfT (fun _ => true) 0 hist).map (fun l => (l.pre.length, (l.ops.flatMap Op.steps).length)) =
    [(69, 69), (20, 22)] := by decide +kernel

set_option maxRecDepth 20000 in
/-- the crash state of the second life: the recordings of the first life survived; file 6 — cut by the throttle when
the bucket ran out — is complete; the test recording 7 (killed inside its stop) is debris; the next start-up leaves
the four recordings -/
example :
    ((livesOfT (fun _ => true) 0 hist)[1]?.map fun l =>
        ((afterLives {} ((livesOfT (fun _ => true) 0 hist).take 1)).run l.pre).files) =
      some [(⟨6, .F⟩, .complete), (⟨7, .T⟩, .partialData), (⟨7, .S⟩, .partialData),
       (⟨5, .F⟩, .complete), (⟨0, .F⟩, .complete), (⟨1, .F⟩, .complete)] ∧
    (afterLives {} (livesOfT (fun _ => true) 0 hist)).files =
      [(⟨6, .F⟩, .complete), (⟨5, .F⟩, .complete), (⟨0, .F⟩, .complete), (⟨1, .F⟩, .complete)] := by decide +kernel

/-- why a `.start` request carries the processor's `ok`: were the base start to SUCCEED (bucket full) while the
processor is told it failed, the processor's next start attempt would reach the base recorder while its file is open
(the throttle forwards a second start request: first line).  `thrObs` cannot express this (the outcome is tied); the
broken list is not `WellFormed` and not `Exact` -/
example (leaves : Nat → Bool) :
    baseCallsOf ((TState.init 3 1 2).step (.start 0 0 true)).2 ++
      baseCallsOf (((TState.init 3 1 2).step (.start 0 0 true)).1.step (.start 0 0 true)).2 =
      [(.start, true), (.start, true)] ∧
    ¬ WellFormed [(Call.start, true), (Call.start, true)] ∧
    ¬ Exact leaves {} [.call .motion .start true, .call .motion .start true] := by
  refine ⟨by decide, by decide, fun h => ?_⟩
  have := h [_] _ [] rfl; cases this

end TR.C10PipeThr
