import Proofs.Throttle
/-!
# C05 — Throttling bounds recorded frames by the token bucket in every time interval

Quantifier: every bucket capacity ≥ 1 and quantum ≥ 1 (the two numbers the rate-limiter
library derives from `bucket-size*fps` and the refill rate), every minimum recording length,
every list of upstream start / write / stop requests — whatever the upstream is, in
particular the motion processor under continuous motion — with any non-decreasing clock, and
every pattern of base-recorder failures.

Tick `T = (now − start) / fillInterval`.  In every window of requests `i … j`
  frames forwarded to storage  ≤  cap + 1 + q·(T_j − T_i)
and `T_j − T_i ≤ (t_j − t_i)/fillInterval + 1`, i.e. bucket + refill earned + (1 + q) frames;
with `q = 1` (every rate below 10⁷ frames/s) that is the property's two-frame tolerance.
-/
namespace TR.C05

/-- sum of forwarded frames over a list of (tick, forwarded) pairs -/
def fwdSum (l : List (Nat × Nat)) : Nat := (l.map (·.2)).sum

theorem windowsFrom_sound (cap q t0 : Nat) : ∀ (l : List (Nat × Nat)) (acc : Nat),
    windowsFrom cap q t0 acc l = true →
    ∀ j (hj : j < l.length), acc + fwdSum (l.take (j + 1)) ≤ cap + 1 + q * (l[j].1 - t0) := by
  intro l
  induction l with
  | nil => intro acc _ j hj; simp at hj
  | cons a rest ih =>
    intro acc h j hj
    obtain ⟨t, f⟩ := a
    simp only [windowsFrom, Bool.and_eq_true, decide_eq_true_eq] at h
    cases j with
    | zero => simp [fwdSum]; exact h.1
    | succ j =>
      have := ih (acc + f) h.2 j (by simpa using hj)
      simp only [List.take_succ_cons, fwdSum, List.map_cons, List.sum_cons, List.getElem_cons_succ] at this ⊢
      omega

/-- **C05 (readable form of the monitor).** If `allWindows` accepts a list then every window
`i … j` satisfies the bound. -/
theorem allWindows_sound (cap q : Nat) : ∀ (l : List (Nat × Nat)), allWindows cap q l = true →
    ∀ i j (hij : i ≤ j) (hj : j < l.length),
      fwdSum ((l.drop i).take (j - i + 1)) ≤ cap + 1 + q * (l[j].1 - (l[i]'(by omega)).1) := by
  intro l
  induction l with
  | nil => intro _ i j _ hj; simp at hj
  | cons a rest ih =>
    intro h i j hij hj
    obtain ⟨t, f⟩ := a
    simp only [allWindows, Bool.and_eq_true] at h
    cases i with
    | zero =>
      have := windowsFrom_sound cap q t ((t, f) :: rest) 0 h.1 j hj
      simpa using this
    | succ i =>
      cases j with
      | zero => omega
      | succ j =>
        have := ih h.2 i j (by omega) (by simpa using hj)
        simpa using this

/-- **C05.** For every schedule the throttle's trace is accepted by the window monitor. -/
theorem c05_window_monitor (cap q minLen : Nat) (hc : 0 < cap) (hq : 0 < q) (reqs : List TReq)
    (hm : Mono 0 reqs) :
    monC05 cap q (utrace { t := TState.init cap q minLen } reqs) = [] := by
  unfold monC05
  rw [(windows_ok cap q reqs _ 0 rfl rfl (Bucket.wf_new cap q hc hq 0) hm).2]
  rfl

/-- **C05, spelled out.** In the trace of any schedule, the frames forwarded to storage during
requests `i … j` are at most `cap + 1 + q·(T_j − T_i)`. -/
theorem c05_every_window (cap q minLen : Nat) (hc : 0 < cap) (hq : 0 < q) (reqs : List TReq)
    (hm : Mono 0 reqs) (i j : Nat) (hij : i ≤ j)
    (hj : j < (tickFwd 0 (utrace { t := TState.init cap q minLen } reqs)).length) :
    fwdSum (((tickFwd 0 (utrace { t := TState.init cap q minLen } reqs)).drop i).take (j - i + 1))
      ≤ cap + 1 + q * ((tickFwd 0 (utrace { t := TState.init cap q minLen } reqs))[j].1
          - ((tickFwd 0 (utrace { t := TState.init cap q minLen } reqs))[i]'(by omega)).1) :=
  allWindows_sound cap q _
    (windows_ok cap q reqs _ 0 rfl rfl (Bucket.wf_new cap q hc hq 0) hm).2 i j hij hj

/-- ticks versus wall-clock: with `tick = t / fill`, the tick difference of two instants is at
most the elapsed time in fill intervals plus one — the "2 frames of tick quantisation" for q = 1 -/
theorem tick_diff_le (fill t1 t2 : Nat) (hf : 0 < fill) (hle : t1 ≤ t2) :
    t2 / fill - t1 / fill ≤ (t2 - t1) / fill + 1 := by
  -- `t1` and `t2 - t1` each lie less than one interval above a multiple of `fill`, so `t2` lies less than
  -- two intervals above the sum of the two multiples
  have h1 := Nat.lt_mul_div_succ t1 hf
  have h2 := Nat.lt_mul_div_succ (t2 - t1) hf
  refine Nat.sub_le_of_le_add (Nat.le_of_lt_succ ((Nat.div_lt_iff_lt_mul hf).mpr ?_))
  rw [Nat.mul_comm, Nat.mul_succ, Nat.mul_add]
  rw [Nat.mul_add_one] at h1
  omega

/-! ### Non-vacuity: the `+1` is attained — after idling while full, cap+1 frames pass at once -/
example :
    let reqs : List TReq := [.start 5 1 true, .write 5 1 true true true, .write 5 2 true true true,
                             .write 5 3 true true true, .write 5 4 true true true]
    (tickFwd 0 (utrace { t := TState.init 2 1 1 } reqs)).map (·.2) = [0, 1, 1, 1, 0] := by decide +kernel

end TR.C05
