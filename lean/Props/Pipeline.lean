import TR.Pipeline
import Proofs.PipeLemmas
/-!
# Pipeline-level statements of C13 / C14 / C15 / C17 (and the C11 flavour of "append only")

Everything is about the composed model `TR.Pipeline`: socket item → parser → detector →
processor → (throttle) → abstract files, for every `FloatOps`, every configuration and every
pipeline state (no reachability assumption).
-/
namespace TR.PipeProps
open TR TR.PipeLemmas

variable {F : FloatOps}

theorem applyObs_fold_frame (c : PipeCfg) (obs : List Obs) (p : Pipe F) :
    (obs.foldl (Pipe.applyObs c) p).det = p.det ∧
    (obs.foldl (Pipe.applyObs c) p).proc = p.proc ∧
    (obs.foldl (Pipe.applyObs c) p).accepted = p.accepted ∧
    (obs.foldl (Pipe.applyObs c) p).badFrames = p.badFrames ∧
    (obs.foldl (Pipe.applyObs c) p).resets = p.resets :=
  applyObs_fold_others c obs p

/-- a processor step without `start` / `write` calls, applied to the pipeline: besides `proc` only the throttle
state and `closed` flags can change -/
theorem fold_quiet (c : PipeCfg) (p : Pipe F) (r : PState × List Obs) (hq : r.2.all quiet = true) :
    let q := r.2.foldl (Pipe.applyObs c) { p with proc := r.1 }
    q.det = p.det ∧ q.proc = r.1 ∧ q.accepted = p.accepted ∧ q.badFrames = p.badFrames ∧ q.resets = p.resets ∧
    q.files.map (·.frames) = p.files.map (·.frames) ∧ q.files.length = p.files.length :=
  let ⟨h1, h2, h3, h4, h5⟩ := applyObs_fold_frame c r.2 { p with proc := r.1 }
  ⟨h1, h2, h3, h4, h5, applyObs_fold_quiet_frames c _ hq _, applyObs_fold_quiet_length c _ hq _⟩

/-! ## 1. C13 — a rejected frame reaches neither the detector, nor the bookkeeping, nor a file -/

/-- C13 at pipeline level.  The hypothesis is the one of `C11.c11_bad_frame_not_accepted`. -/
theorem c13_bad_frame_pipeline (c : PipeCfg) (p : Pipe F) (bytes : List Nat) (y x : Nat)
    (hbad : (if c.lepton then Parse.parseLepton (fun i => bytes.toArray.getD i 0) c.det.resX c.det.resY c.det.edge
             else Parse.parseBoson (fun i => bytes.toArray.getD i 0) c.det.resX c.det.resY c.det.edge) = .bad y x) :
    let q := Pipe.item c p (.frame bytes)
    q.det = p.det ∧ q.accepted = p.accepted ∧ q.proc.n = p.proc.n ∧ q.badFrames = p.badFrames + 1 ∧
    q.resets = p.resets ∧ q.proc.isRec = false ∧
    q.files.map (·.frames) = p.files.map (·.frames) ∧
    (q.files.map (·.frames.length)).sum = (p.files.map (·.frames.length)).sum ∧
    q.files.length = p.files.length := by
  intro q
  obtain ⟨hbrec, hbn, hquiet⟩ := processBad_spec c.proc p.proc (Pipe.faults c)
  obtain ⟨h1, h2, h3, h4, h5, hfiles, hlen⟩ := fold_quiet c p _ hquiet
  rw [show q = _ from item_bad c p bytes y x hbad]
  exact ⟨h1, h3, (congrArg PState.n h2).trans hbn, congrArg (· + 1) h4, h5, (congrArg PState.isRec h2).trans hbrec,
    hfiles, by rw [map_frames_length, map_frames_length, hfiles], hlen⟩

/-! ## 2. C14 — a `clear` marker is a camera reset -/

/-- C14 at pipeline level: detector reset, recording stopped, nothing accepted, nothing written -/
theorem c14_clear_pipeline (c : PipeCfg) (p : Pipe F) :
    let q := Pipe.item c p .clear
    q.det = p.det.reset ∧ q.proc.isRec = false ∧ q.accepted = p.accepted ∧ q.resets = p.resets + 1 ∧
    q.proc.n = p.proc.n ∧ q.badFrames = p.badFrames ∧
    q.files.map (·.frames) = p.files.map (·.frames) ∧ q.files.length = p.files.length := by
  intro q
  obtain ⟨hsrec, hsn, hquiet⟩ := stopRecording_spec p.proc true
  obtain ⟨h1, h2, h3, h4, h5, hfiles, hlen⟩ := fold_quiet c p _ hquiet
  rw [show q = _ from item_clear c p]
  exact ⟨congrArg Det.reset h1, (congrArg PState.isRec h2).trans hsrec, h3, congrArg (· + 1) h5,
    (congrArg PState.n h2).trans hsn, h4, hfiles, hlen⟩

/-- C14, the file: without the throttle, a `clear` during a recording closes the most recently
started open motion file — the number of open motion files drops by one -/
theorem c14_clear_closes_count (c : PipeCfg) (p : Pipe F) (hthrot : c.throttle = false)
    (hrec : p.proc.isRec = true) :
    motionOpenCount (Pipe.item c p .clear).files = motionOpenCount p.files - 1 := by
  rw [item_clear, stopRecording_rec hrec]
  show motionOpenCount (Pipe.motionCall c _ .stop).files = _
  rw [motionCall_off c hthrot]
  exact motionOpenCount_close p.files

/-- … so if at most one motion file was open (the processor has one motion recording at a time),
none is open afterwards -/
theorem c14_clear_closes_motion_file (c : PipeCfg) (p : Pipe F) (hthrot : c.throttle = false)
    (hrec : p.proc.isRec = true) (hone : motionOpenCount p.files ≤ 1) :
    openMotion (Pipe.item c p .clear).files = false := by
  apply openMotion_false_of_count_zero
  rw [c14_clear_closes_count c p hthrot hrec]
  omega

/-- when the processor was not recording, a `clear` leaves the files exactly as they were -/
theorem c14_clear_idle_files (c : PipeCfg) (p : Pipe F) (hrec : p.proc.isRec = false) :
    (Pipe.item c p .clear).files = p.files := by
  rw [item_clear, stopRecording_idle hrec]
  rfl

/-! ## 3. C15, last clause — a recording stores what the detector holds at its start -/

/-- without the throttle, the processor's `StartRecording` on the motion sink creates a file whose
header is the detector's current threshold and background -/
theorem c15_start_stores_detector (c : PipeCfg) (p : Pipe F) (hthrot : c.throttle = false) :
    ∃ f, (Pipe.motionCall c p .start).files = f :: p.files ∧
      (Pipe.motionCall c p .start).files.head? = some f ∧
      f.kind = .motion ∧ f.thresh = p.det.tempThresh ∧ f.bg = p.det.background c.det ∧
      f.bgSeeded = p.det.bgSeeded ∧ f.frames = [] ∧ f.closed = false := by
  rw [motionCall_off c hthrot]
  exact ⟨_, rfl, rfl, rfl, rfl, rfl, rfl, rfl, rfl⟩

/-- for a frame that parses, the processor's observations are applied to a pipe whose detector is
the one AFTER `detect` of that very frame (and it stays that one to the end of the item) -/
theorem c15_frame_detector_after_detect (c : PipeCfg) (p : Pipe F) (bytes : List Nat) (pix : Frame)
    (tel : Parse.Telemetry)
    (hok : (if c.lepton then Parse.parseLepton (fun i => bytes.toArray.getD i 0) c.det.resX c.det.resY c.det.edge
            else Parse.parseBoson (fun i => bytes.toArray.getD i 0) c.det.resX c.det.resY c.det.edge) = .ok pix tel) :
    let ffc := Det.affectedBy c.det ((tel.timeOnMs : Int) * 1000000) ((tel.lastFFCMs : Int) * 1000000)
    let d := Det.detect c.det p.det pix ffc
    let r := PState.processFrame c.proc p.proc d.2 (Pipe.faults c)
    let p₀ : Pipe F := { p with det := d.1, accepted := { pix := pix, tel := tel } :: p.accepted, proc := r.1 }
    Pipe.item c p (.frame bytes) = r.2.foldl (Pipe.applyObs c) p₀ ∧
    p₀.det = d.1 ∧
    (Pipe.item c p (.frame bytes)).det = d.1 ∧
    (Pipe.item c p (.frame bytes)).proc = r.1 ∧
    (Pipe.item c p (.frame bytes)).accepted = { pix := pix, tel := tel } :: p.accepted := by
  intro ffc d r p₀
  have hq : Pipe.item c p (.frame bytes) = r.2.foldl (Pipe.applyObs c) p₀ := item_ok c p bytes pix tel hok
  obtain ⟨h1, h2, h3, _, _⟩ := applyObs_fold_frame c r.2 p₀
  exact ⟨hq, rfl, hq ▸ h1, hq ▸ h2, hq ▸ h3⟩

/-- every file started while a valid frame is processed carries a header taken from the detector
state after `detect` of that frame: background and seeded flag always; the threshold is 0 for
test / continuous files and the detector's for a motion file — with the throttle it may instead be
the threshold the throttle stored at the upstream start (`p.threshOfStart`), see `Hdr`.
The files that existed before are all still there, in order, below the new ones (`PW`). -/
theorem c15_frame_started_files (c : PipeCfg) (p : Pipe F) (bytes : List Nat) (pix : Frame)
    (tel : Parse.Telemetry)
    (hok : (if c.lepton then Parse.parseLepton (fun i => bytes.toArray.getD i 0) c.det.resX c.det.resY c.det.edge
            else Parse.parseBoson (fun i => bytes.toArray.getD i 0) c.det.resX c.det.resY c.det.edge) = .ok pix tel) :
    let ffc := Det.affectedBy c.det ((tel.timeOnMs : Int) * 1000000) ((tel.lastFFCMs : Int) * 1000000)
    let d := Det.detect c.det p.det pix ffc
    ∃ added upd, (Pipe.item c p (.frame bytes)).files = added ++ upd ∧ PW p.files upd ∧
      ∀ f ∈ added, Hdr c d.1 p.threshOfStart f := by
  intro ffc d
  rw [item_ok c p bytes pix tel hok]
  exact (applyObs_fold_started c _ _).2.2

/-- the same without the throttle, spelled out -/
theorem c15_frame_started_files_unthrottled (c : PipeCfg) (p : Pipe F) (bytes : List Nat) (pix : Frame)
    (tel : Parse.Telemetry) (hthrot : c.throttle = false)
    (hok : (if c.lepton then Parse.parseLepton (fun i => bytes.toArray.getD i 0) c.det.resX c.det.resY c.det.edge
            else Parse.parseBoson (fun i => bytes.toArray.getD i 0) c.det.resX c.det.resY c.det.edge) = .ok pix tel) :
    let ffc := Det.affectedBy c.det ((tel.timeOnMs : Int) * 1000000) ((tel.lastFFCMs : Int) * 1000000)
    let d := Det.detect c.det p.det pix ffc
    ∃ added upd, (Pipe.item c p (.frame bytes)).files = added ++ upd ∧ PW p.files upd ∧
      ∀ f ∈ added, f.bg = d.1.background c.det ∧ f.bgSeeded = d.1.bgSeeded ∧
        (f.kind = .motion → f.thresh = d.1.tempThresh) ∧ (f.kind ≠ .motion → f.thresh = 0) := by
  intro ffc d
  obtain ⟨added, upd, e, pw, h⟩ := c15_frame_started_files c p bytes pix tel hok
  exact ⟨added, upd, e, pw, fun f hf => ⟨(h f hf).1, (h f hf).2.1, (h f hf).thresh_off hthrot, (h f hf).2.2.1⟩⟩

/-! ## 4. C17 / C11 flavour — files are never removed or reordered, frames only appended -/

theorem c17_item_files_length (c : PipeCfg) (p : Pipe F) (it : Socket.Item) :
    (Pipe.item c p it).files.length ≥ p.files.length :=
  (item_ext c p it).length_le

/-- counted from the oldest file (the list is newest-first): position `i` still holds the same
file, its old frame list is a prefix of the new one -/
theorem c17_item_frames_prefix (c : PipeCfg) (p : Pipe F) (it : Socket.Item) (i : Nat) (hi : i < p.files.length) :
    ∃ h₂ : i < (Pipe.item c p it).files.reverse.length,
      (p.files.reverse[i]'(by simpa using hi)).frames <+: ((Pipe.item c p it).files.reverse[i]).frames ∧
      (p.files.reverse[i]'(by simpa using hi)).kind = ((Pipe.item c p it).files.reverse[i]).kind ∧
      (p.files.reverse[i]'(by simpa using hi)).thresh = ((Pipe.item c p it).files.reverse[i]).thresh ∧
      (p.files.reverse[i]'(by simpa using hi)).bg = ((Pipe.item c p it).files.reverse[i]).bg ∧
      ((p.files.reverse[i]'(by simpa using hi)).closed = true →
        (Pipe.item c p it).files.reverse[i] = p.files.reverse[i]'(by simpa using hi)) := by
  obtain ⟨h₂, hle⟩ := (item_ext c p it).reverse_getElem i hi
  exact ⟨h₂, hle.2.2.2.2.1, hle.1, hle.2.1, hle.2.2.1, hle.2.2.2.2.2⟩

/-- the same over a whole item sequence -/
theorem c17_run_extends_files (c : PipeCfg) (items : List Socket.Item) (p : Pipe F) :
    Ext p.files (items.foldl (Pipe.item c) p).files := by
  induction items generalizing p with
  | nil => exact Ext.refl _
  | cons it its ih =>
    simp only [List.foldl_cons]
    exact Ext.trans (item_ext c p it) (ih _)

/-! ## the model run on a tiny configuration -/

section examples
open TR.PipeLemmas.Tiny

/-- two cold frames, a hot one (motion → recording starts, pre-trigger frames 0,1 and frame 2 written),
then `clear`: the file is closed, the reset counted, nothing else accepted -/
example : summary ([cold, cold, hot, .clear].foldl (Pipe.item c0) (Pipe.init F0 c0)) =
    ([([0, 1, 2], true, 10)], 0, 1, 3, false, 3) := by decide +kernel

/-- the same with a rejected frame instead of the `clear`: the recording is stopped, the bad frame is
counted, it gets no id and reaches no file -/
example : summary ([cold, cold, hot, badf].foldl (Pipe.item c0) (Pipe.init F0 c0)) =
    ([([0, 1, 2], true, 10)], 1, 0, 3, false, 3) := by decide +kernel

/-- with the throttle and a two-token bucket: the recording is cut after two frames, the `clear`
finds the file already closed -/
example : summary ([cold, cold, hot, hot, hot, hot, hot, .clear].foldl (Pipe.item c1) (Pipe.init F0 c1)) =
    ([([0, 1], true, 10)], 0, 1, 7, false, 7) := by decide +kernel

end examples

end TR.PipeProps
