import Props.C03
import Proofs.C03Spec
import Proofs.C01Spec
/-!
# C03, de-monitored — acceptance by `monC03` means "every recording obeys the length rule"

`Props.C03` states C03 through the executable monitor `monC03`.  Here the monitor is taken out of the
trusted reading.  Everything below is stated with definitions of `Proofs.C03Spec` that do not mention the
monitor state `M3`:

* `recordingsOf tr` — a reference interpreter: one recording for every FRAME event that carries a
  successful `StartRecording` on the motion sink (the trigger frame, counted as frame 1); each later frame
  event adds a frame; the recording ends at the first frame event carrying a `StopRecording` (`byStop`, that
  frame included), at a bad frame or reset (`byBadOrReset`, no frame added), at a later frame carrying
  another successful start (`byRestart`; never in the model) or with the trace (`stillOpen`).  Test-recording
  requests carry no frame and are skipped.  The result is the list of motion bits of the frames + the end kind.
* `dueAt minF maxF ms p` — the length rule at frame `p`: `p ≥ min maxF (L - 1 + minF)`, `L = lastMotion`
  of the first `p` frames.
* `LengthRuleRec minF maxF (ms, e)` — at EVERY frame `p` of the recording, the rule is due at `p` iff the
  recording was stopped at `p` (`p` is its last frame and `e = byStop`).  `LengthRule` — every recording of
  the trace.
* `LengthRuleAt` — the same, read position by position on the trace (`startsAt`, `insideRecording`, `due`),
  without the interpreter.  `lengthRule_iff_positional`: the two forms are equivalent on every trace.

Headline results:

* `monitor_sound` — for EVERY trace (the model's or one recorded from the real code): accepted by `monC03`
  and no dictated motion-sink write failure ⟹ `LengthRule`.  `monitor_exact`: under the same side condition
  acceptance is EQUIVALENT to `LengthRule` (and to `LengthRuleAt`) — the plain statement loses nothing.
* `c03_length_rule` — the model, for every configuration with `K ≥ 1`, `minF ≤ maxF`, every event list and
  every fault placement except failing motion-sink writes, satisfies both forms; its recordings begin with a
  motion frame and are never superseded by a restart.
* `recording_bounds` / `c03_recording_bounds` — the user-facing bounds, derived from the plain specification
  alone.

Corners (all exhibited below by `decide`):
* the clean `↔` holds at every frame, including a start and a stop on the same frame (`minF ≤ 1`);
* a successful start on a frame while a recording is open begins a NEW recording (the monitor restarts its
  counters); the old one is listed as `byRestart`.  No `monC12` hypothesis is needed for the theorem; for the
  model `byRestart` never occurs (`c03_length_rule`);
* observations attached to events that are not frames are ignored by the monitor, hence by the
  specification: a stop on a test-request step does not end a recording, a start on a bad frame / reset does
  not begin one.  The model never produces such observations (`model_nonframe_observations`);
* after a dictated motion-sink write failure the monitor is blind (`tainted`), so the hypothesis is needed.
-/
namespace TR.C03Spec

/-! ## generic: any trace -/

/-- **Soundness of the C03 monitor**: on every trace the monitor accepts and in which no motion-sink write
was made to fail, every recording obeys the length rule — at each of its frames, the rule is due iff the
recording was stopped at that frame. -/
theorem monitor_sound (minF maxF : Nat) (tr : List Step)
    (hacc : monC03 minF maxF tr = []) (hnf : ∀ st ∈ tr, st.motionWriteFault = false) :
    LengthRule minF maxF tr :=
  (monC03_iff minF maxF tr hnf).mp hacc

/-- **The monitor is exactly the plain specification** (both forms) on traces without dictated motion-sink
write failures. -/
theorem monitor_exact (minF maxF : Nat) (tr : List Step) (hnf : ∀ st ∈ tr, st.motionWriteFault = false) :
    (monC03 minF maxF tr = [] ↔ LengthRule minF maxF tr) ∧
    (monC03 minF maxF tr = [] ↔ LengthRuleAt minF maxF tr) := by
  have h1 := monC03_iff minF maxF tr hnf
  exact ⟨h1, h1.trans (lengthRule_iff_positional minF maxF tr)⟩

/-- **Soundness, positional form**: if a recording starts at position `i` (frame event with a successful
start), position `k ≥ i` is still inside it (no stop-on-a-frame / bad frame / reset at `i..k-1`, no new start
at `i+1..k`) and `tr[k]` is a frame event, then `tr[k]` carries a stop iff `p ≥ min maxF (l - 1 + minF)` with
`p` = number of frame events at `i..k` and `l` = index among them of the last one with motion. -/
theorem monitor_sound_positional (minF maxF : Nat) (tr : List Step)
    (hacc : monC03 minF maxF tr = []) (hnf : ∀ st ∈ tr, st.motionWriteFault = false) :
    ∀ i k st, startsAt tr i → insideRecording tr i k → tr[k]? = some st → st.ev.isFrame = true →
      (hasStop st.obs = true ↔
        (framesBetween tr i k).length ≥ min maxF (lastMotion (framesBetween tr i k) - 1 + minF)) :=
  (lengthRule_iff_positional minF maxF tr).mp ((monC03_iff minF maxF tr hnf).mp hacc)

/-- **The user-facing bounds**, from the plain specification alone (any trace satisfying it).  For a
recording with motion bits `ms` (so `ms.length` post-trigger frames, trigger frame included):
1. it has at least its trigger frame and at most `max 1 maxF` frames, however it ended;
2. ended by a stop: at least `min maxF minF` frames, and EXACTLY `min maxF (L - 1 + minF)` frames (at least 1)
   where `L` is the index of its last motion frame — it ends `minF - 1` frames after its last motion frame
   (each motion frame pushes the end to `minF` frames counted from itself) unless capped by `maxF`;
3. not ended by a stop (bad frame, reset, restart, trace over): the rule was not yet due at its last frame;
4. closed form: the first frame at which the rule is due is the last frame of a stopped recording and does
   not exist for the others. -/
theorem recording_bounds (minF maxF : Nat) (tr : List Step) (h : LengthRule minF maxF tr) :
    ∀ ms e, (ms, e) ∈ recordingsOf tr →
      (1 ≤ ms.length ∧ ms.length ≤ max 1 maxF) ∧
      (e = .byStop → min maxF minF ≤ ms.length ∧ ms.length = max 1 (min maxF (lastMotion ms - 1 + minF))) ∧
      (e ≠ .byStop → ms.length < min maxF (lastMotion ms - 1 + minF)) ∧
      stopPoint minF maxF ms = (if e = .byStop then some ms.length else none) := by
  intro ms e hmem
  have h1 : 1 ≤ ms.length := recordingsOf_nonempty tr _ hmem
  have hr := h _ hmem
  refine ⟨⟨h1, rec_length_le minF maxF _ hr⟩, ?_, ?_, ?_⟩
  · rintro rfl
    exact ⟨rec_stop_length_ge minF maxF ms h1 hr, rec_stop_length_eq minF maxF ms h1 hr⟩
  · intro he
    exact rec_other_length_lt minF maxF ms e he h1 hr
  · exact (lengthRuleRec_iff_stopPoint minF maxF (ms, e) h1).mp hr

/-! ## the model -/

/-- **C03 as a plain specification.**  For every configuration with `K ≥ 1` and `minF ≤ maxF`, every event
list and every fault placement except failing motion-sink writes: every recording of the model's trace obeys
the length rule (interpreter form and positional form); every recording begins with a motion frame and none
is superseded by a restart. -/
theorem c03_length_rule (c : PCfg) (hK : 0 < c.K) (hmm : c.minF ≤ c.maxF) (evs : List Ev)
    (hw : C03.NoWriteFaults evs) :
    let tr := PState.trace c (PState.init c) evs
    LengthRule c.minF c.maxF tr ∧ LengthRuleAt c.minF c.maxF tr ∧
    ∀ r ∈ recordingsOf tr, r.1.head? = some true ∧ r.2 ≠ .byRestart := by
  intro tr
  have hacc := C03.c03_length_monitor c hK hmm evs hw
  have hnf := C01Spec.trace_no_write_fault c evs (PState.init c) hw
  have h := monitor_sound c.minF c.maxF tr hacc hnf
  exact ⟨h, (lengthRule_iff_positional _ _ tr).mp h, model_recordings_wf c evs (PState.init c)⟩

/-- the observations the specification ignores do not occur in the model: an event that is not a frame never
carries a successful start, a test request carries no observation at all (so recordings start only at frame
events, and stops occur only at frame events, bad frames and resets) -/
theorem model_nonframe_observations (c : PCfg) (s : PState) :
    (∀ ev, ev.isFrame = false → hasStartOk (PState.step c s ev).2 = false) ∧
    (PState.step c s .testReq).2 = [] ∧
    (∀ mo f, hasStartOk (PState.step c s (.frame mo f)).2 = true → mo = true ∧ s.isRec = false) :=
  ⟨model_nonframe_start c s, rfl, model_start c s⟩

/-- **The user-facing bounds for the model** (`K ≥ 1`, `1 ≤ minF ≤ maxF`, no failing motion-sink writes).
For every recording of the model's trace, `ms.length` being its number of post-trigger frames (trigger frame
included) and `L ≥ 1` the index of its last motion frame:
* ended by `StopRecording`: `minF ≤ ms.length ≤ maxF` and `ms.length = min maxF (L - 1 + minF)` exactly;
* ended by a bad frame / reset, or still open: `ms.length < min maxF (L - 1 + minF)` — cut short, never long. -/
theorem c03_recording_bounds (c : PCfg) (hK : 0 < c.K) (hmm : c.minF ≤ c.maxF) (h1 : 1 ≤ c.minF)
    (evs : List Ev) (hw : C03.NoWriteFaults evs) :
    ∀ ms e, (ms, e) ∈ recordingsOf (PState.trace c (PState.init c) evs) →
      1 ≤ lastMotion ms ∧ lastMotion ms ≤ ms.length ∧
      (e = .byStop → c.minF ≤ ms.length ∧ ms.length ≤ c.maxF ∧
        ms.length = min c.maxF (lastMotion ms - 1 + c.minF)) ∧
      (e ≠ .byStop → 1 ≤ ms.length ∧ ms.length < min c.maxF (lastMotion ms - 1 + c.minF)) := by
  intro ms e hmem
  obtain ⟨hrule, _, hwf⟩ := c03_length_rule c hK hmm evs hw
  obtain ⟨⟨g1, g2⟩, g3, g4, _⟩ := recording_bounds c.minF c.maxF _ hrule ms e hmem
  have hhead := (hwf _ hmem).1
  have hL : 1 ≤ lastMotion ms := by
    cases ms with
    | nil => simp at hhead
    | cons b bs =>
      simp only [List.head?_cons, Option.some.injEq] at hhead
      subst hhead
      simp only [lastMotion]
      split
      · omega
      · simp
  refine ⟨hL, lastMotion_le ms, ?_, ?_⟩
  · intro he
    obtain ⟨k1, k2⟩ := g3 he
    omega
  · intro he
    exact ⟨g1, g4 he⟩

/-! ## non-vacuity -/

private def cfg : PCfg := { K := 3, minF := 3, maxF := 6, trig := 1, constOn := true, testLast := 1 }

private def evs : List Ev :=
  [.frame false {},
   -- recording 1: motion, still, motion, still, still — stopped at frame 5 = (3 - 1) + minF
   .frame true {}, .frame false {}, .frame true {}, .frame false {}, .frame false {},
   .frame false {},
   -- recording 2: sustained motion — capped at maxF = 6
   .frame true {}, .frame true {}, .frame true {}, .frame true {}, .frame true {}, .frame true {},
   -- recording 3: cut by a bad frame (a test request in between carries no frame)
   .frame true {}, .testReq, .bad {},
   -- refused start (disk check), then recording 4 cut by a reset (its StopRecording fails)
   .frame true { can := false }, .frame true { mStop := false }, .frame false {}, .reset { mStop := false },
   -- recording 5: still open at the end
   .frame false {}, .frame true {}, .frame false {}]

example : 0 < cfg.K ∧ cfg.minF ≤ cfg.maxF ∧ C03.NoWriteFaults evs := by
  refine ⟨by decide +kernel, by decide +kernel, ?_⟩
  unfold C03.NoWriteFaults; decide +kernel

set_option maxRecDepth 8000 in
/-- the recordings of the model on that input, with the first frame at which the rule is due -/
example :
    (recordingsOf (PState.trace cfg (PState.init cfg) evs)).map
      (fun r => (r.1, r.2, stopPoint cfg.minF cfg.maxF r.1)) =
    [([true, false, true, false, false], .byStop, some 5),
     ([true, true, true, true, true, true], .byStop, some 6),
     ([true], .byBadOrReset, none),
     ([true, false], .byBadOrReset, none),
     ([true, false], .stillOpen, none)] := by decide +kernel

/-- stopped ONE FRAME EARLY (`minF = 3`: due at frame 3, stopped at 2): rejected by the monitor, violates the
plain specification in both forms -/
example :
    let tr : List Step :=
      [⟨.frame true {}, [.call .motion .start true, .call .motion (.write 0) true]⟩,
       ⟨.frame false {}, [.call .motion (.write 1) true, .call .motion .stop true]⟩]
    monC03 3 5 tr = ["C03:stopped-early"] ∧ recordingsOf tr = [([true, false], .byStop)] ∧
    stopPoint 3 5 [true, false] = none ∧ ¬ LengthRule 3 5 tr ∧ ¬ LengthRuleAt 3 5 tr := by
  refine ⟨by decide +kernel, by decide +kernel, by decide +kernel, by decide +kernel, fun h => ?_⟩
  exact absurd ((lengthRule_iff_positional _ _ _).mpr h) (by decide +kernel)

/-- stopped ONE FRAME LATE (`minF = 2`: due at frame 2, stopped at 3): rejected, violates the specification -/
example :
    let tr : List Step :=
      [⟨.frame true {}, [.call .motion .start true, .call .motion (.write 0) true]⟩,
       ⟨.frame false {}, [.call .motion (.write 1) true]⟩,
       ⟨.frame false {}, [.call .motion (.write 2) true, .call .motion .stop true]⟩]
    monC03 2 5 tr = ["C03:ran-past-limit"] ∧ recordingsOf tr = [([true, false, false], .byStop)] ∧
    stopPoint 2 5 [true, false, false] = some 2 ∧ ¬ LengthRule 2 5 tr ∧ ¬ LengthRuleAt 2 5 tr := by
  refine ⟨by decide +kernel, by decide +kernel, by decide +kernel, by decide +kernel, fun h => ?_⟩
  exact absurd ((lengthRule_iff_positional _ _ _).mpr h) (by decide +kernel)

/-- the same three frames stopped exactly on time are accepted and satisfy the specification -/
example :
    let tr : List Step :=
      [⟨.frame true {}, [.call .motion .start true, .call .motion (.write 0) true]⟩,
       ⟨.frame false {}, [.call .motion (.write 1) true]⟩,
       ⟨.frame false {}, [.call .motion (.write 2) true, .call .motion .stop true]⟩]
    monC03 3 5 tr = [] ∧ LengthRule 3 5 tr ∧ stopPoint 3 5 [true, false, false] = some 3 := by decide +kernel

/-- a recording running past `maxF` is rejected although motion continues -/
example :
    let tr : List Step :=
      [⟨.frame true {}, [.call .motion .start true]⟩, ⟨.frame true {}, []⟩, ⟨.frame true {}, []⟩,
       ⟨.frame true {}, [.call .motion .stop true]⟩]
    monC03 2 3 tr = ["C03:ran-past-limit"] ∧ ¬ LengthRule 2 3 tr ∧ stopPoint 2 3 [true, true, true, true] = some 3 := by
  decide +kernel

/-! ### corners -/

/-- start and stop on the same frame (`minF ≤ 1`): the clean `↔` holds at the trigger frame too -/
example :
    let tr : List Step :=
      [⟨.frame true {}, [.call .motion .start true, .call .motion (.write 0) true, .call .motion .stop true]⟩,
       ⟨.frame true {}, [.call .motion .start true, .call .motion (.write 1) true, .call .motion .stop true]⟩]
    monC03 1 5 tr = [] ∧ recordingsOf tr = [([true], .byStop), ([true], .byStop)] ∧ LengthRule 1 5 tr ∧
    monC03 2 5 tr = ["C03:stopped-early", "C03:stopped-early"] ∧ ¬ LengthRule 2 5 tr := by decide +kernel

/-- a successful start while a recording is open begins a new recording (the monitor restarts its counters,
the interpreter lists the old one as `byRestart`); the C12 monitor flags such a trace, the model never
produces one -/
example :
    let tr : List Step :=
      [⟨.frame true {}, [.call .motion .start true]⟩, ⟨.frame true {}, [.call .motion .start true]⟩,
       ⟨.frame false {}, [.call .motion .stop true]⟩]
    monC03 2 5 tr = [] ∧ recordingsOf tr = [([true], .byRestart), ([true, false], .byStop)] ∧
    LengthRule 2 5 tr ∧ monC12 tr ≠ [] := by decide +kernel

/-- observations on events that are not frames are ignored by the monitor and by the specification alike: a
stop attached to a test request does not end the recording, a start attached to a bad frame does not begin
one (the model produces neither, `model_nonframe_observations`) -/
example :
    let tr : List Step :=
      [⟨.frame true {}, [.call .motion .start true]⟩, ⟨.testReq, [.call .motion .stop true]⟩,
       ⟨.frame false {}, [.call .motion .stop true]⟩, ⟨.bad {}, [.call .motion .start true]⟩,
       ⟨.frame false {}, []⟩, ⟨.frame false {}, []⟩, ⟨.frame false {}, []⟩]
    monC03 2 5 tr = [] ∧ recordingsOf tr = [([true, false], .byStop)] ∧ LengthRule 2 5 tr := by decide +kernel

/-- the hypothesis "no failing motion-sink write" is needed: the monitor goes blind (`tainted`) -/
example :
    let tr : List Step :=
      [⟨.frame true {}, [.call .motion .start true, .call .motion (.write 0) false]⟩,
       ⟨.frame false {}, [.call .motion .stop true]⟩]
    monC03 3 5 tr = [] ∧ ¬ LengthRule 3 5 tr := by decide +kernel

/-- a trigger frame without motion (impossible in the model) is read as if it had motion: `0 - 1 = 0` -/
example : dueAt 2 5 [false, false] 2 ∧ ¬ dueAt 2 5 [false, false] 1 ∧ lastMotion [false, false] = 0 ∧
    lastMotion [true, false, true, false] = 3 := by decide +kernel

end TR.C03Spec
