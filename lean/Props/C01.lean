import Proofs.ProcC01
/-!
# C01 — Each motion recording is a gap-free, duplicate-free, in-order run of the stream

The property is the executable monitor `monC01C02` (`TR/ProcMon.lean`): it reports
`C01:not-contiguous` when a write inside a recording is not `last + 1`,
`C01:overlaps-previous-recording` when a recording starts at an id already written to an earlier
recording, `C01:does-not-tile` when a recording within pre-trigger reach of the previous one does
not start right after it, and `C02:wrong-first-frame` when the first id is not
`max (trigger + 1 − K) nextFree`.  The theorem: on the model's trace the monitor reports nothing.

Quantifier: every configuration with ring capacity `K ≥ 1` (no constraint on `minF`, `maxF`,
`trig`), every event list (frames with any motion bit, bad frames, resets, test requests), every
fault placement on every sink call except failing `WriteFrame` calls on the motion sink.
-/
namespace TR.C01

/-- no write faults on the motion sink in any event (write failures are outside C01's quantifier) -/
def NoWriteFaults (evs : List Ev) : Prop := ∀ ev ∈ evs, ev.faults.mWriteFail = 0

/-- Every motion recording is a consecutive ascending run of accepted-frame ids, recordings never overlap,
    each starts at max (trigger+1-K) (1 + last id of the previous recording) — for every configuration with K ≥ 1,
    every event list (frames with any motion bits, refused starts of all three kinds, bad frames, resets,
    test requests) and every fault placement except failing motion-sink writes. -/
theorem c01_c02_monitor (c : PCfg) (hK : 0 < c.K) (evs : List Ev) (hw : NoWriteFaults evs) :
    monC01C02 c.K (PState.trace c (PState.init c) evs) = [] :=
  (P01.pinv_trace c evs (PState.init c) {} hw (P01.pinv_init c hK)).core.fails

/-! ### Non-vacuity -/

/-- ids written to the motion sink, per event -/
private def writes (c : PCfg) (evs : List Ev) : List (List Nat) :=
  (PState.trace c (PState.init c) evs).map fun st => st.obs.filterMap fun o => (o.isWrite .motion).map (·.1)

private def cfg : PCfg := { K := 3, minF := 2, maxF := 3, trig := 1, constOn := true, testLast := 1 }

/-- frames 0–2 still; motion on 3–6: recording 1..5 (two pre-trigger frames, cut by the `maxF` cap), the
next one tiles it (6, 7); a start refused by the disk check on 8 (event 9), recording 8, 9 cut by a bad
frame; a test request; recording 10 cut by a reset; starts refused by file creation (12) and by the
window (13); recording 12, 13, 14 with a full pre-trigger reach. -/
private def evs : List Ev :=
  [.frame false {}, .frame false {}, .frame false {}, .frame true {}, .frame true {}, .frame true {},
   .frame true {}, .frame false {}, .frame true { can := false }, .frame true { mStop := false }, .bad {},
   .testReq, .frame true { cStart := false }, .reset {}, .frame false {}, .frame true { mStart := false },
   .frame true { win := false }, .frame true {}]

example : NoWriteFaults evs := by unfold NoWriteFaults; decide +kernel
set_option maxRecDepth 8000 in
example : writes cfg evs =
    [[], [], [], [1, 2, 3], [4], [5], [6], [7], [], [8, 9], [], [], [10], [], [], [], [], [12, 13, 14]] := by
  decide +kernel
set_option maxRecDepth 8000 in
example : monC01C02 cfg.K (PState.trace cfg (PState.init cfg) evs) = [] := by decide +kernel

/-- the monitor does reject: a gap, a replayed frame, a late start -/
example : monC01C02 3 [⟨.frame true {}, [.call .motion .start true, .call .motion (.write 0) true,
    .call .motion (.write 2) true]⟩] = ["C01:not-contiguous"] := rfl
example : monC01C02 3
    [⟨.frame true {}, [.call .motion .start true, .call .motion (.write 0) true, .call .motion .stop true]⟩,
     ⟨.frame true {}, [.call .motion .start true, .call .motion (.write 0) true, .call .motion (.write 1) true]⟩]
    = ["C01:overlaps-previous-recording", "C02:wrong-first-frame"] := rfl
example : monC01C02 3
    [⟨.frame false {}, []⟩, ⟨.frame true {}, [.call .motion .start true, .call .motion (.write 1) true]⟩]
    = ["C01:does-not-tile", "C02:wrong-first-frame"] := rfl

/-- the hypothesis `K ≥ 1` is needed: with capacity 0 the monitor rejects the model's own trace -/
example : monC01C02 0 (PState.trace { cfg with K := 0 } (PState.init { cfg with K := 0 }) [.frame true {}]) ≠ [] := by
  decide +kernel

end TR.C01
