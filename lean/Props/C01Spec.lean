import Props.C01
import Proofs.PipeSim
/-!
# C01, de-monitored — acceptance by `monC01C02` means "contiguous runs, strictly increasing"

`Props.C01` states C01 through the executable monitor `monC01C02`.  Here the monitor is taken out of the
trusted reading:

* `recordings tr` (`Proofs.C01Spec`) cuts the motion-sink calls of ANY observed trace into recordings — a
  plain fold: a successful `StartRecording` opens a recording, every `WriteFrame` appends its id to the open
  one, `StopRecording` closes it;
* `monitor_sound`: for every trace (the model's or one recorded from the real code) that the monitor
  accepts and in which no motion-sink write was made to fail, every recording is `[a, a+1, …]` and the
  concatenation of all recordings is strictly increasing;
* `c01_recordings`: hence the model's recordings have that shape, for every configuration with `K ≥ 1`,
  every event list and every fault placement except failing motion-sink writes; all recorded ids are ids of
  accepted frames;
* `pipe_c01`: the motion files of the unthrottled composed pipeline (`TR.Pipeline`) ARE the recordings of the
  processor trace it induces, so they inherit the specification.

The bound "every recorded id is below the number of frame events" does NOT follow from monitor acceptance
on arbitrary traces (the monitor bounds only the first id of a recording; see the counterexample below);
it is proved for the model (`c01_recordings`) and for the pipeline (`pipe_c01`).
-/
namespace TR.C01Spec

/-! ## generic: any trace -/

/-- **Soundness of the C01/C02 monitor**, for every trace: if the monitor accepts and no step dictates a
failing motion-sink write, every recording is a contiguous ascending run of ids, and the concatenation of
all recordings is strictly increasing (no id recorded twice, recordings in stream order). -/
theorem monitor_sound (K : Nat) (tr : List Step)
    (hacc : monC01C02 K tr = []) (hnf : ∀ st ∈ tr, st.motionWriteFault = false) :
    (∀ r ∈ recordings tr, ∃ a, r = List.range' a r.length) ∧
    (recordings tr).flatten.Pairwise (· < ·) := by
  have h := ascRuns_final K tr hacc hnf
  exact ⟨h.all_runs, h.sorted⟩

/-- only ids that were written to the motion sink are recorded (any trace, no hypothesis) -/
theorem recorded_ids_were_written (tr : List Step) :
    ∀ id ∈ (recordings tr).flatten, ∃ st ∈ tr, ∃ ok, Obs.call .motion (.write id) ok ∈ st.obs := by
  unfold recordings recAcc
  refine acc_ids_written _ _ {} (by intro id hid; simp [RecAcc.all] at hid) ?_
  intro id ok hm
  obtain ⟨st, hst, ho⟩ := List.mem_flatMap.mp hm
  exact ⟨st, hst, ok, ho⟩

/-- "an accepted trace records only ids below its number of frame events" is FALSE: the monitor checks the first id of a recording against the current frame index, later
writes only for contiguity — one frame event may carry a start and the writes 0, 1.  Neither the C12
protocol monitor nor `K ≥ 1` helps. -/
example :
    let tr : List Step := [⟨.frame true {}, [.call .motion .start true, .call .motion (.write 0) true,
      .call .motion (.write 1) true]⟩]
    monC01C02 1 tr = [] ∧ monC12 tr = [] ∧ (∀ st ∈ tr, st.motionWriteFault = false) ∧
    recordings tr = [[0, 1]] ∧ (tr.filter (·.ev.isFrame)).length = 1 := by decide +kernel

/-- … and writes during an event that is not a frame are not excluded by the monitor either -/
example :
    let tr : List Step := [⟨.bad {}, [.call .motion .start true, .call .motion (.write 0) true]⟩]
    monC01C02 1 tr = [] ∧ monC12 tr = [] ∧ recordings tr = [[0]] ∧ (tr.filter (·.ev.isFrame)).length = 0 := by
  decide +kernel

/-! ## the model -/

/-- **C01 as a list specification.**  For every configuration with `K ≥ 1`, every event list and every
fault placement except failing motion-sink writes: every motion recording of the model is a contiguous
ascending run `[a, a+1, …]`; over all recordings, oldest first, the ids strictly increase (no frame is
recorded twice, recordings never overlap and come in stream order); every recorded id is the index of an
accepted frame. -/
theorem c01_recordings (c : PCfg) (hK : 0 < c.K) (evs : List Ev) (hw : C01.NoWriteFaults evs) :
    let R := recordings (PState.trace c (PState.init c) evs)
    (∀ r ∈ R, ∃ a, r = List.range' a r.length) ∧ R.flatten.Pairwise (· < ·) ∧
    ∀ id ∈ R.flatten, id < (evs.filter Ev.isFrame).length := by
  intro R
  have hacc := C01.c01_c02_monitor c hK evs hw
  have hnf := trace_no_write_fault c evs (PState.init c) hw
  obtain ⟨h1, h2⟩ := monitor_sound c.K _ hacc hnf
  refine ⟨h1, h2, ?_⟩
  intro id hid
  exact Nat.lt_of_lt_of_le ((ascRuns_final c.K _ hacc hnf).bound id hid) (model_nextFree_le c hK evs hw)

/-! ## the composed pipeline, throttle off -/

section pipeline
variable {F : FloatOps}

/-- the motion files of the unthrottled pipeline are the recordings of a processor trace: there is an event
list — frames with the detector's verdicts, bad frames, resets, test requests, with the pipeline's fault
record (window and disk gate only) — that takes the processor model to the pipeline's processor state,
whose frame events are the accepted frames, and whose recordings are the motion files -/
theorem pipe_files_are_recordings (c : PipeCfg) (hK : 0 < c.proc.K) (hthr : c.throttle = false)
    (ops : List PipeOp) :
    let p := ops.foldl (Pipe.op c) (Pipe.init F c)
    ∃ evs : List Ev, C01.NoWriteFaults evs ∧
      p.proc = PState.after c.proc (PState.init c.proc) evs ∧
      motionFiles p = recordings (PState.trace c.proc (PState.init c.proc) evs) ∧
      (evs.filter Ev.isFrame).length = p.accepted.length := by
  intro p
  obtain ⟨evs, h⟩ := PipeSim.sim_ops (F := F) c hK ops
  exact ⟨evs, fun e he => (h.ev e he).1, h.proc, PipeSim.sim_motionFiles h hthr, h.acc⟩

/-- **C01 at pipeline level** (throttle off): for every `FloatOps`, every configuration with ring capacity
≥ 1, every sequence of socket items and test-recording requests — each motion file is a contiguous
ascending run of accepted-frame ids, over all motion files (oldest first) the ids strictly increase, and
every id is the index of an accepted frame. -/
theorem pipe_c01 (c : PipeCfg) (hK : 0 < c.proc.K) (hthr : c.throttle = false) (ops : List PipeOp) :
    let p := ops.foldl (Pipe.op c) (Pipe.init F c)
    let R := motionFiles p
    (∀ r ∈ R, ∃ a, r = List.range' a r.length) ∧ R.flatten.Pairwise (· < ·) ∧
    ∀ id ∈ R.flatten, id < p.accepted.length := by
  intro p R
  obtain ⟨evs, hw, _, hR, hcount⟩ := pipe_files_are_recordings (F := F) c hK hthr ops
  have h := c01_recordings c.proc hK evs hw
  show (∀ r ∈ motionFiles p, _) ∧ (motionFiles p).flatten.Pairwise (· < ·) ∧ ∀ id ∈ (motionFiles p).flatten, _
  rw [hR, ← hcount]
  exact h

end pipeline

/-! ## non-vacuity -/

private def cfg : PCfg := { K := 3, minF := 2, maxF := 3, trig := 1, constOn := true, testLast := 1 }

/-- the event list of `Props.C01` -/
private def evs : List Ev :=
  [.frame false {}, .frame false {}, .frame false {}, .frame true {}, .frame true {}, .frame true {},
   .frame true {}, .frame false {}, .frame true { can := false }, .frame true { mStop := false }, .bad {},
   .testReq, .frame true { cStart := false }, .reset {}, .frame false {}, .frame true { mStart := false },
   .frame true { win := false }, .frame true {}]

example : C01.NoWriteFaults evs := by unfold C01.NoWriteFaults; decide +kernel

set_option maxRecDepth 8000 in
/-- five recordings: cut by `maxF`, tiling the first, cut by a bad frame, cut by a reset, still open -/
example : recordings (PState.trace cfg (PState.init cfg) evs) =
    [[1, 2, 3, 4, 5], [6, 7], [8, 9], [10], [12, 13, 14]] := by decide +kernel

/-- a trace the monitor rejects whose recordings are not contiguous -/
example :
    let tr : List Step := [⟨.frame true {}, [.call .motion .start true, .call .motion (.write 0) true,
      .call .motion (.write 2) true]⟩]
    monC01C02 3 tr = ["C01:not-contiguous"] ∧ recordings tr = [[0, 2]] ∧
    ¬ ∃ a, [0, 2] = List.range' a 2 := by
  refine ⟨by decide +kernel, by decide +kernel, ?_⟩
  rintro ⟨a, h⟩
  simp [List.range'] at h
  omega

/-- … and one it rejects whose recordings overlap -/
example :
    let tr : List Step :=
      [⟨.frame true {}, [.call .motion .start true, .call .motion (.write 0) true, .call .motion .stop true]⟩,
       ⟨.frame true {}, [.call .motion .start true, .call .motion (.write 0) true, .call .motion (.write 1) true]⟩]
    monC01C02 3 tr ≠ [] ∧ recordings tr = [[0], [0, 1]] ∧ ¬ (recordings tr).flatten.Pairwise (· < ·) := by
  decide +kernel

/-- the hypothesis "no failing motion-sink write" is needed: the monitor goes blind (`tainted`) -/
example :
    let tr : List Step := [⟨.frame true {}, [.call .motion .start true, .call .motion (.write 0) false,
      .call .motion (.write 2) true]⟩]
    monC01C02 3 tr = [] ∧ recordings tr = [[0, 2]] := by decide +kernel

section pipeExample
open TR.PipeLemmas.Tiny

set_option maxRecDepth 8000 in
/-- the `Tiny` pipeline of `Proofs.PipeLemmas`: cold, cold, hot, hot, hot (recording 0–3, ended by the length rule),
a `clear`, a test request, cold, hot, hot (recording 4–7 with its pre-trigger frames), a rejected frame that
ends it, one more frame -/
example : motionFiles ([PipeOp.item cold, .item cold, .item hot, .item hot, .item hot, .item .clear, .testReq,
    .item cold, .item hot, .item hot, .item badf, .item hot].foldl (Pipe.op c0) (Pipe.init F0 c0)) =
    [[0, 1, 2, 3], [4, 5, 6, 7]] := by decide +kernel

end pipeExample

end TR.C01Spec
