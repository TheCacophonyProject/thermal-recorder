import Props.C17
import Proofs.C17Spec
/-!
# C17, de-monitored — acceptance by `monC17` means "chunks of the segments" and "runs after each request"

`Props.C17` states C17 through the executable monitor `monC17`.  Here the monitor is taken out of the trusted
reading.  Everything below is defined by plain folds over the observed trace (`Proofs.C17Spec`), none of which
mentions `M17`:

* `filesOf s tr` — the id lists written to sink `s` between a successful `StartRecording` and the next
  `StopRecording` (`closedFilesOf`), plus the file still open at the end (`openFileOf`); for the motion sink
  these are the `recordings` of `Proofs.C01Spec` (`files_motion_eq_recordings`);
* `numFrames tr` — the frame events are numbered `0, …, numFrames tr - 1` in order;
* `segments tr` — the frame ids cut at the `.bad` events; `chunksOf k l` — `l` cut every `k` elements
  (`chunksOf_rec`: `l.take k :: chunksOf k (l.drop k)`);
* `testStarts tr` — ids of the frame events that are the first frame event after a `.testReq` event
  (`testStarts_positions`);
* side conditions: `sinkFault st.obs = false` for every step (no call on the continuous / test sink was made
  to fail), `reqsSpaced c tr` (between two consecutive `.testReq` events there are at least `testLast + 1`
  frame events; a fold over the events only), `quietStep st` for every step (see below).

`continuous_files`, `continuous_off`, `test_files_spec`: for EVERY trace (the model's or one recorded from the
real code) satisfying the side conditions, `monC17 c tr = []` implies

* `filesOf .const tr = (segments tr).flatMap (chunksOf (maxF + 1))` — hence every valid frame lands in exactly
  one continuous file, in order, and nothing else does; every file has between 1 and `maxF + 1` frames, a file
  that is not the last of its segment has exactly `maxF + 1`, an open file at most `maxF`;
* `filesOf .test tr = (testStarts tr).map fun a => List.range' a (min (testLast + 1) (numFrames tr - a))` —
  every closed test file is `[a, …, a + testLast]`, an open one is a shorter run reaching the last frame.

`c17_files`: the model satisfies the side conditions whenever its events dictate no failure on the two sinks
and its requests are spaced, hence has those files (`0 < c.K` is not needed).

**The side condition `quietStep`.**  `monC17` compares the calls on the continuous
sink with its prediction during `.frame` and `.bad` steps and those on the test sink during `.frame` steps
only; calls made during other steps are not looked at.  A trace that writes to the continuous sink during a
`.reset` step is accepted although its files are not the chunks (examples below).  `quietStep` excludes
exactly those calls; the model never makes them (`trace_quiet`, unconditionally).  This is a blind spot of the
monitor on recorded traces, not of the theorem about the model.
-/
namespace TR.C17Spec

/-! ## generic: any trace -/

/-- `filesOf` generalises the `recordings` of `Proofs.C01Spec` -/
theorem files_motion_eq_recordings (tr : List Step) : filesOf .motion tr = C01Spec.recordings tr := by
  have h := facc_motion_fold (tr.flatMap (·.obs)) {}
  show (fileAcc .motion tr).done ++ (fileAcc .motion tr).cur.toList = (C01Spec.recAcc tr).all
  unfold C01Spec.recAcc C01Spec.RecAcc.all fileAcc
  rw [← h]

/-- the usual recursion: the first `k` elements, then the chunks of the rest -/
theorem chunksOf_rec (k : Nat) (hk : 0 < k) (l : List Nat) (hl : l ≠ []) :
    chunksOf k l = l.take k :: chunksOf k (l.drop k) := by
  by_cases h : k ≤ l.length
  · conv => lhs; rw [← List.take_append_drop k l]
    exact chunkAux_fill k (l.take k) [] _
      (fun e => (List.take_eq_nil_iff.mp e).elim (Nat.ne_of_gt hk) hl) (by simp; omega)
  · rw [List.take_of_length_le (by omega), List.drop_of_length_le (by omega), chunksOf,
      chunkAux_short k l [] (by simpa using Nat.lt_of_not_le h)]
    simp [hl, chunksOf_nil]

/-- chunks are non-empty, have at most `k` elements, all but the last exactly `k`; nothing is lost -/
theorem chunksOf_shape (k : Nat) (hk : 0 < k) (l : List Nat) :
    (chunksOf k l).flatten = l ∧ (∀ x ∈ chunksOf k l, 0 < x.length ∧ x.length ≤ k) ∧
    ∀ init last, chunksOf k l = init ++ [last] → ∀ x ∈ init, x.length = k :=
  ⟨chunksOf_flatten k hk l, chunksOf_length k hk l, chunksOf_full k hk l⟩

/-- `a` is a test start iff the trace reads `pre ++ q :: mid ++ f :: post` with `q` a `.testReq` step, no frame
step in `mid`, `f` a frame step, and `a` the id of `f` (the number of frame steps before it; `f` sits at
position `(pre ++ q :: mid).length`, cf. `frameIdAt_append`) -/
theorem testStarts_positions (tr : List Step) (a : Nat) :
    a ∈ testStarts tr ↔
      ∃ pre q mid f post, tr = (pre ++ q :: mid) ++ f :: post ∧ q.ev = .testReq ∧
        (∀ s ∈ mid, s.ev.isFrame = false) ∧ f.ev.isFrame = true ∧ a = numFrames (pre ++ q :: mid) := by
  rw [mem_testStarts]
  constructor
  · rintro ⟨p, f, post, rfl, hf, ⟨pre, q, mid, rfl, hq, hmid⟩, ha⟩
    exact ⟨pre, q, mid, f, post, rfl, hq, hmid, hf, ha⟩
  · rintro ⟨pre, q, mid, f, post, rfl, hq, hmid, hf, ha⟩
    exact ⟨pre ++ q :: mid, f, post, rfl, hf, ⟨pre, q, mid, rfl, hq, hmid⟩, ha⟩

/-- with no dictated fault on the continuous / test sink and spaced requests the monitor keeps judging -/
theorem side_conditions_untainted (c : PCfg) (tr : List Step)
    (hsf : ∀ st ∈ tr, sinkFault st.obs = false) (hsp : reqsSpaced c tr = true) :
    (tr.foldl (M17.step c) {}).tainted = false :=
  untainted_fold c tr none {} hsf hsp ⟨rfl, rfl, rfl⟩ rfl

/-- **Soundness of the C17 monitor, continuous recorder on.**  For every trace without dictated faults on
the continuous / test sink, with spaced test requests and quiet non-frame steps: if the monitor accepts,
the continuous files are exactly the chunks of `maxF + 1` frames of the segments between bad frames; so
every valid frame lands in exactly one file, in order, and nothing else does; every file has between 1 and
`maxF + 1` frames; a file still open at the end has at most `maxF`. -/
theorem continuous_files (c : PCfg) (hc : c.constOn = true) (tr : List Step)
    (hsf : ∀ st ∈ tr, sinkFault st.obs = false) (hsp : reqsSpaced c tr = true)
    (hq : ∀ st ∈ tr, quietStep st = true) (hacc : monC17 c tr = []) :
    filesOf .const tr = (segments tr).flatMap (chunksOf (c.maxF + 1)) ∧
    (filesOf .const tr).flatten = List.range (numFrames tr) ∧
    (∀ r ∈ filesOf .const tr, 0 < r.length ∧ r.length ≤ c.maxF + 1) ∧
    (∀ r, openFileOf .const tr = some r → 0 < r.length ∧ r.length ≤ c.maxF) := by
  obtain ⟨h1, h2⟩ := const_files c hc tr hq (side_conditions_untainted c tr hsf hsp) hacc
  refine ⟨h1, ?_, ?_, h2⟩
  · rw [h1, flatMap_chunks_flatten _ (Nat.succ_pos _), segments_partition]
  · intro r hr
    rw [h1] at hr
    obtain ⟨seg, _, hr'⟩ := List.mem_flatMap.mp hr
    exact chunksOf_length (c.maxF + 1) (Nat.succ_pos _) seg r hr'

/-- … continuous recorder off: no continuous file at all -/
theorem continuous_off (c : PCfg) (hc : c.constOn = false) (tr : List Step)
    (hsf : ∀ st ∈ tr, sinkFault st.obs = false) (hsp : reqsSpaced c tr = true)
    (hq : ∀ st ∈ tr, quietStep st = true) (hacc : monC17 c tr = []) :
    filesOf .const tr = [] :=
  constOff_files c hc tr hq (side_conditions_untainted c tr hsf hsp) hacc

/-- **Soundness of the C17 monitor, test recordings.**  Under the same side conditions: there is one test
file per test start, in order; the file of start `a` is the run `a, a+1, …` of `testLast + 1` ids, cut short
only by the end of the trace.  Every closed file is complete (`testLast + 1` consecutive ids beginning with
the first frame after its request); an open file belongs to the last start and is a shorter run that ends
with the last frame of the trace. -/
theorem test_files_spec (c : PCfg) (tr : List Step)
    (hsf : ∀ st ∈ tr, sinkFault st.obs = false) (hsp : reqsSpaced c tr = true)
    (hq : ∀ st ∈ tr, quietStep st = true) (hacc : monC17 c tr = []) :
    filesOf .test tr =
      (testStarts tr).map (fun a => List.range' a (min (c.testLast + 1) (numFrames tr - a))) ∧
    (filesOf .test tr).length = (testStarts tr).length ∧
    (∀ r ∈ closedFilesOf .test tr, ∃ a ∈ testStarts tr, a + (c.testLast + 1) ≤ numFrames tr ∧
      r = List.range' a (c.testLast + 1)) ∧
    (∀ r, openFileOf .test tr = some r → ∃ s0 a, testStarts tr = s0 ++ [a] ∧ a < numFrames tr ∧
      numFrames tr - a ≤ c.testLast ∧ r = List.range' a (numFrames tr - a)) := by
  obtain ⟨h1, h2, h3⟩ := test_files c tr hq (side_conditions_untainted c tr hsf hsp) hacc
  exact ⟨h1, by rw [h1, List.length_map], h2, h3⟩

/-! ## the model -/

/-- the model's trace satisfies the side conditions: quiet always; no sink fault when the events dictate
none; its events are the given events -/
theorem model_side_conditions (c : PCfg) (evs : List Ev) :
    (∀ st ∈ PState.trace c (PState.init c) evs, quietStep st = true) ∧
    ((∀ e ∈ evs, cleanEv e = true) → ∀ st ∈ PState.trace c (PState.init c) evs, sinkFault st.obs = false) ∧
    (PState.trace c (PState.init c) evs).map (·.ev) = evs ∧
    numFrames (PState.trace c (PState.init c) evs) = (evs.filter Ev.isFrame).length :=
  ⟨trace_quiet c evs _, trace_noSinkFault c evs _, trace_evs c evs _, trace_numFrames c evs _⟩

/-- **C17 as a list specification.**  For every configuration, every event list whose fault records leave
the continuous and the test sink alone (`cStart = cWrite = cStop = tStart = tWrite = tStop = true`; anything
may happen on the motion sink, window, disk check) and whose test requests are at least `testLast + 1`
frames apart: with `n` the number of valid frames,

* recorder on: the continuous files are the chunks of `maxF + 1` frames of the segments between bad frames;
  their concatenation is `0, 1, …, n-1`; recorder off: there is none;
* the test files are the runs `[a, …, a + testLast]`, `a` the id of the first valid frame after each
  request, the last one cut at `n`. -/
theorem c17_files (c : PCfg) (hK : 0 < c.K) (evs : List Ev)
    (hcl : ∀ e ∈ evs, cleanEv e = true) (hsp : spacedFrom (c.testLast + 1) none evs = true) :
    let tr := PState.trace c (PState.init c) evs
    let n := (evs.filter Ev.isFrame).length
    (c.constOn = true → filesOf .const tr = (segments tr).flatMap (chunksOf (c.maxF + 1)) ∧
      (filesOf .const tr).flatten = List.range n ∧
      (∀ r ∈ filesOf .const tr, 0 < r.length ∧ r.length ≤ c.maxF + 1) ∧
      (∀ r, openFileOf .const tr = some r → 0 < r.length ∧ r.length ≤ c.maxF)) ∧
    (c.constOn = false → filesOf .const tr = []) ∧
    filesOf .test tr = (testStarts tr).map (fun a => List.range' a (min (c.testLast + 1) (n - a))) ∧
    (∀ r ∈ closedFilesOf .test tr, ∃ a ∈ testStarts tr, a + (c.testLast + 1) ≤ n ∧
      r = List.range' a (c.testLast + 1)) ∧
    (∀ r, openFileOf .test tr = some r → ∃ s0 a, testStarts tr = s0 ++ [a] ∧ a < n ∧
      n - a ≤ c.testLast ∧ r = List.range' a (n - a)) := by
  intro tr n
  have hacc : monC17 c tr = [] := C17.c17_continuous_and_test c hK evs
  obtain ⟨hq, hsf, hev, hn⟩ := model_side_conditions c evs
  have hsf' := hsf hcl
  have hsp' : reqsSpaced c tr = true := by
    unfold reqsSpaced
    rw [show tr.map (·.ev) = evs from hev]; exact hsp
  have hn' : numFrames tr = n := hn
  refine ⟨?_, ?_, ?_⟩
  · intro hc
    have h := continuous_files c hc tr hsf' hsp' hq hacc
    rw [hn'] at h
    exact h
  · intro hc
    exact continuous_off c hc tr hsf' hsp' hq hacc
  · have h := test_files_spec c tr hsf' hsp' hq hacc
    rw [hn'] at h
    exact ⟨h.1, h.2.2.1, h.2.2.2⟩

/-! ## non-vacuity -/

private def cfg : PCfg := { K := 3, minF := 2, maxF := 2, trig := 1, constOn := true, testLast := 1 }

/-- files of three frames; two bad frames in a row; a reset; a request served by frames 5, 6; a bad frame; a
request served by frame 10 alone (still open) -/
private def evs : List Ev :=
  [.frame false {}, .frame false {}, .frame true {}, .frame true { mStop := false }, .bad {}, .bad {},
   .reset {}, .frame false {}, .testReq, .frame false { win := false }, .frame false {}, .frame false {},
   .frame false {}, .frame false {}, .bad {}, .testReq, .frame true { can := false }]

example : (∀ e ∈ evs, cleanEv e = true) ∧ spacedFrom (cfg.testLast + 1) none evs = true := by decide +kernel

set_option maxRecDepth 8000 in
example :
    let tr := PState.trace cfg (PState.init cfg) evs
    segments tr = [[0, 1, 2, 3], [], [4, 5, 6, 7, 8, 9], [10]] ∧
    filesOf .const tr = [[0, 1, 2], [3], [4, 5, 6], [7, 8, 9], [10]] ∧
    closedFilesOf .const tr = [[0, 1, 2], [3], [4, 5, 6], [7, 8, 9]] ∧
    testStarts tr = [5, 10] ∧
    filesOf .test tr = [[5, 6], [10]] ∧ openFileOf .test tr = some [10] := by decide +kernel

/-- a hand-made trace in which the continuous recorder skips frame 1: rejected, and the files do not cover
the frames -/
example :
    let c : PCfg := { K := 3, minF := 2, maxF := 2, trig := 1, constOn := true, testLast := 1 }
    let tr : List Step :=
      [⟨.frame false {}, [.call .const .start true, .call .const (.write 0) true]⟩,
       ⟨.frame false {}, []⟩,
       ⟨.frame false {}, [.call .const (.write 2) true, .call .const .stop true]⟩]
    monC17 c tr ≠ [] ∧ (∀ st ∈ tr, sinkFault st.obs = false) ∧ reqsSpaced c tr = true ∧
    (∀ st ∈ tr, quietStep st = true) ∧
    filesOf .const tr = [[0, 2]] ∧ (filesOf .const tr).flatten ≠ List.range (numFrames tr) := by decide +kernel

/-- … and one in which the test recording starts one frame late: rejected, the file is not the run from the
first frame after the request -/
example :
    let c : PCfg := { K := 3, minF := 2, maxF := 2, trig := 1, constOn := false, testLast := 1 }
    let tr : List Step :=
      [⟨.testReq, []⟩, ⟨.frame false {}, []⟩,
       ⟨.frame false {}, [.call .test .start true, .call .test (.write 1) true]⟩,
       ⟨.frame false {}, [.call .test (.write 2) true, .call .test .stop true]⟩]
    monC17 c tr ≠ [] ∧ testStarts tr = [0] ∧ filesOf .test tr = [[1, 2]] := by decide +kernel

/-- **`quietStep` is needed** (blind spot of the monitor): calls on the continuous sink during a `.reset`
step and calls on the test sink during a `.bad` step are not looked at — accepted, untainted, yet the files
are not the specified ones -/
example :
    let c : PCfg := { K := 3, minF := 2, maxF := 2, trig := 1, constOn := true, testLast := 1 }
    let tr : List Step :=
      [⟨.reset {}, [.call .const .start true, .call .const (.write 7) true]⟩,
       ⟨.bad {}, [.call .const .stop true, .call .test .start true, .call .test (.write 9) true]⟩]
    monC17 c tr = [] ∧ (∀ st ∈ tr, sinkFault st.obs = false) ∧ reqsSpaced c tr = true ∧
    (tr.foldl (M17.step c) {}).tainted = false ∧
    filesOf .const tr = [[7]] ∧ (segments tr).flatMap (chunksOf 3) = [] ∧
    filesOf .test tr = [[9]] ∧ testStarts tr = [] := by decide +kernel

/-- **`reqsSpaced` is needed**: after an overlapping request the monitor stops judging — accepted although
the requested test recording never happens -/
example :
    let c : PCfg := { K := 3, minF := 2, maxF := 2, trig := 1, constOn := false, testLast := 1 }
    let tr : List Step := [⟨.testReq, []⟩, ⟨.testReq, []⟩, ⟨.frame false {}, []⟩]
    monC17 c tr = [] ∧ reqsSpaced c tr = false ∧ testStarts tr = [0] ∧ filesOf .test tr = [] := by decide +kernel

/-- **"no dictated sink fault" is needed**: the monitor goes blind after a failed call -/
example :
    let c : PCfg := { K := 3, minF := 2, maxF := 2, trig := 1, constOn := true, testLast := 1 }
    let tr : List Step := [⟨.frame false {}, [.call .const .start false]⟩, ⟨.frame false {}, []⟩]
    monC17 c tr = [] ∧ filesOf .const tr = [] ∧ (segments tr).flatMap (chunksOf 3) = [[0, 1]] := by decide +kernel

end TR.C17Spec
