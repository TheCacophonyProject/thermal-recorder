import Generated.Facts
/-! # Source facts — C20: the limiter interval -/
namespace TR.FactsProc
open Facts

/-- C20: the processor's limiter uses a one-minute interval -/
theorem log_interval : minLogIntervalNs = 60 * 1000000000 ∧ processorLogInit = "loglimiter.New(minLogInterval)" := ⟨rfl, rfl⟩

end TR.FactsProc
