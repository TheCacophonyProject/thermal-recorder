import Proofs.DetC15
/-!
# C15 — the dynamic threshold tracks the background mean within its configured bounds

Model: `TR/Detector.lean` (`Det.detect`, `Det.updateBackground`, `Det.clampThresh`, `Det.meanOf`,
`Det.background`), event streams: `TR/DetSpec.lean`.

Quantifier: every configuration `c : DCfg`, every frame `f`, every floating-point instance
`F : FloatOps` and an ARBITRARY detector state `d : Det F` (so in particular every reachable one);
the per-step theorems talk about ONE `detect` step, the `c15_run_*` theorems about every event list
(frames with any FFC flags, resets) from `Det.init`.

The only thing assumed about the floating point is `LowerLaw` (and only by the four
"not warmer" theorems, two per step and two per run): a frame value strictly below the background value always counts as lower,
whatever the weight.  Everything else holds for every `FloatOps`.

Reading of the model: `detect` first stores `affected := ffc`, then — only when
`c.dynamic ∧ ¬ffc` — calls `updateBackground c {d with affected := ffc} f d.affected`
(`prevFFC` is the flag left by the PREVIOUS frame) and recomputes the threshold iff
`changed ∧ backgroundFrames > previewFrames`; `pixelsChanged` never touches `bg`, `tempThresh`,
`backgroundFrames`.

`d.bg` holds the interior values; the background frame as stored by the Go code is
`Det.background c d` = interior + replicated border (all zero before the first update).
-/
namespace TR.C15
open TR.Det
variable {F : FloatOps}

/-- The one law about the float32 comparison `float32(new) − w < float32(bg)`: it is true whenever
`new < bg` as integers (true for Go's float32 with the non-negative weights that occur). -/
def LowerLaw (F : FloatOps) : Prop :=
  ∀ (new bg : Nat) (w : F.ω), new < bg → F.lower new w bg = true

/-! ## 1. the background is never warmer than the current frame -/

/-- **C15 (1).** After a non-FFC frame with dynamic thresholding, every interior pixel of the
background estimate is at most the frame's value at that pixel. -/
theorem c15_bg_not_warmer (hl : LowerLaw F) (c : DCfg) (d : Det F) (f : Frame)
    (hdyn : c.dynamic = true) :
    ∀ y x, c.inI y x = true → (detect c d f false).1.bg y x ≤ f y x := by
  intro y x h
  rw [(P15.detect_dynamic c d f hdyn).1]
  unfold bgNext
  split
  · exact Nat.le_refl _
  · -- an interior pixel that is kept: `lower` said no, so by the law the frame is not colder there
    rename_i hr
    apply Nat.le_of_not_lt
    intro hlt
    apply hr
    simp [replaces, h, hl _ _ _ hlt]

/-- **C15 (1), stored frame.** The same for the whole stored background frame including the
replicated border: every pixel (any `y x`) is at most the frame's value at the nearest interior
pixel.  (It may well be warmer than the frame's own border pixel: the border is not compared.) -/
theorem c15_background_not_warmer (hl : LowerLaw F) (c : DCfg) (d : Det F) (f : Frame)
    (hdyn : c.dynamic = true) (hne : 2 * c.edge < c.resX ∧ 2 * c.edge < c.resY) :
    ∀ y x, background c (detect c d f false).1 y x ≤ f (c.clampY y) (c.clampX x) := by
  intro y x
  unfold background
  rw [(P15.detect_dynamic c d f hdyn).2.2.2]
  exact c15_bg_not_warmer hl c d f hdyn _ _ (DCfg.inI_clamp c hne y x)

/-- **C15 (1), exact form** (no law needed): each pixel of the new background is either the frame's value
or the old background value. -/
theorem c15_bg_frame_or_kept (c : DCfg) (d : Det F) (f : Frame) (hdyn : c.dynamic = true) (y x : Nat) :
    (detect c d f false).1.bg y x = f y x ∨ (detect c d f false).1.bg y x = d.bg y x := by
  rw [(P15.detect_dynamic c d f hdyn).1]
  unfold bgNext
  split
  · exact Or.inl rfl
  · exact Or.inr rfl

/-- Outside the interior `bg` is never written (the stored border comes from `background`). -/
theorem c15_bg_outside_untouched (c : DCfg) (d : Det F) (f : Frame) (ffc : Bool) (y x : Nat)
    (h : c.inI y x = false) : (detect c d f ffc).1.bg y x = d.bg y x := by
  rcases pre_cases c ffc with hb | ⟨hdyn, rfl⟩
  · rw [(P15.detect_static c d f ffc hb).1]
  · rw [(P15.detect_dynamic c d f hdyn).1]
    simp [bgNext, h]

/-! ## 2. the border replicates the nearest interior pixel -/

/-- **C15 (2).** With a non-empty interior, every pixel of the stored background frame equals the
stored pixel at the nearest interior coordinate, and that coordinate is interior.
(The bounds `y < c.resY`, `x < c.resX` of the frame are not needed: the statement holds for all
`y x`.)  This is how the model's `background` is built; the correspondence check compares it with
the frame the Go code holds. -/
theorem c15_border_replicated (c : DCfg) (d : Det F)
    (hne : 2 * c.edge < c.resX ∧ 2 * c.edge < c.resY) (y x : Nat) :
    background c d y x = background c d (c.clampY y) (c.clampX x) ∧
      c.inI (c.clampY y) (c.clampX x) = true := by
  refine ⟨?_, DCfg.inI_clamp c hne y x⟩
  unfold background
  rw [DCfg.clampY_of_mem c _ (DCfg.clampY_range c y hne.2), DCfg.clampX_of_mem c _ (DCfg.clampX_range c x hne.1)]

/-- the form asked for, with the frame bounds as (unused) hypotheses -/
theorem c15_border_replicated_in_frame (c : DCfg) (d : Det F)
    (hne : 2 * c.edge < c.resX ∧ 2 * c.edge < c.resY) (y x : Nat) (_hy : y < c.resY) (_hx : x < c.resX) :
    background c d y x = background c d (c.clampY y) (c.clampX x) ∧
      c.inI (c.clampY y) (c.clampX x) = true :=
  c15_border_replicated c d hne y x

/-- on the interior the stored frame is `bg` itself (once seeded) -/
theorem c15_background_interior (c : DCfg) (d : Det F) (hs : d.bgSeeded = true) (y x : Nat)
    (h : c.inI y x = true) : background c d y x = d.bg y x := by
  unfold background
  rw [DCfg.clampY_of_mem c y ((DCfg.inI_iff c y x).1 h).1, DCfg.clampX_of_mem c x ((DCfg.inI_iff c y x).1 h).2]
  simp [hs]

/-- `clampY`/`clampX` really give the NEAREST interior coordinate: no interior coordinate is closer
(`|a − b|` written with truncated subtraction). -/
theorem c15_clamp_is_nearest (c : DCfg) (y x y' x' : Nat) (h : c.inI y' x' = true) :
    (c.clampY y - y) + (y - c.clampY y) ≤ (y' - y) + (y - y') ∧
      (c.clampX x - x) + (x - c.clampX x) ≤ (x' - x) + (x - x') := by
  have h := (DCfg.inI_iff c y' x').1 h
  exact ⟨DCfg.clampY_eq c y ▸ DCfg.clamp_nearest y h.1, DCfg.clampX_eq c x ▸ DCfg.clamp_nearest x h.2⟩

/-! ## 3. re-seeding after an FFC and after a reset -/

/-- **C15 (3).** If the previous frame was FFC-affected (`d.affected`) or this is the first background
frame since start-up / `Reset` (`d.backgroundFrames = 0`), a dynamic non-FFC frame replaces the whole
interior of the background by the frame. -/
theorem c15_reseed_after_ffc (c : DCfg) (d : Det F) (f : Frame) (hdyn : c.dynamic = true)
    (h : d.affected = true ∨ d.backgroundFrames = 0) :
    ∀ y x, c.inI y x = true → (detect c d f false).1.bg y x = f y x := by
  intro y x hi
  rw [(P15.detect_dynamic c d f hdyn).1]
  rcases h with h | h <;> simp [bgNext, replaces, h, hi]

/-- **C15 (3), reset.** `Reset` zeroes the background frame counter (and leaves `bg`, the threshold
and the FFC flag alone), so the next dynamic non-FFC frame re-seeds. -/
theorem c15_reset_restarts (d : Det F) :
    d.reset.backgroundFrames = 0 ∧ d.reset.bg = d.bg ∧ d.reset.tempThresh = d.tempThresh ∧
      d.reset.affected = d.affected ∧ d.reset.bgSeeded = d.bgSeeded :=
  ⟨rfl, rfl, rfl, rfl, rfl⟩

theorem c15_reseed_after_reset (c : DCfg) (d : Det F) (f : Frame) (hdyn : c.dynamic = true) :
    ∀ y x, c.inI y x = true → (detect c d.reset f false).1.bg y x = f y x :=
  c15_reseed_after_ffc c d.reset f hdyn (Or.inr rfl)

/-- every frame leaves its own FFC flag behind: that is the `prevFFC` of the next frame -/
theorem c15_affected_is_last_ffc (c : DCfg) (d : Det F) (f : Frame) (ffc : Bool) :
    (detect c d f ffc).1.affected = ffc :=
  detect_affected c d f ffc

/-- the frame counter: +1 on a dynamic non-FFC frame -/
theorem c15_counter (c : DCfg) (d : Det F) (f : Frame) (hdyn : c.dynamic = true) :
    (detect c d f false).1.backgroundFrames = d.backgroundFrames + 1 :=
  (P15.detect_dynamic c d f hdyn).2.2.1

/-! ## 4. the threshold is the bounded mean of the interior background -/

/-- **C15 (4), exact.** After a dynamic non-FFC frame the threshold is
`clampThresh (uint16 (mean of the interior of the NEW background))` if the background `changed` and
more than `previewFrames` background frames have been seen, and the old threshold otherwise. -/
theorem c15_threshold_eq (c : DCfg) (d : Det F) (f : Frame) (hdyn : c.dynamic = true) :
    (detect c d f false).1.tempThresh =
      if (updateBackground c { d with affected := false } f d.affected).2.2 = true ∧
          d.backgroundFrames + 1 > c.previewFrames then
        clampThresh c (F.trunc (meanOf F c (detect c d f false).1.bg))
      else d.tempThresh := by
  rw [(P15.detect_dynamic c d f hdyn).2.1, (P15.detect_dynamic c d f hdyn).1, P15.detect_changed]
  simp only [threshNext, Bool.and_eq_true, decide_eq_true_eq]

/-- **C15 (4).** Either the threshold is unchanged or it is the bounded mean of the new background. -/
theorem c15_threshold_is_bounded_mean (c : DCfg) (d : Det F) (f : Frame) (hdyn : c.dynamic = true) :
    (detect c d f false).1.tempThresh = d.tempThresh ∨
      (detect c d f false).1.tempThresh =
        clampThresh c (F.trunc (meanOf F c (detect c d f false).1.bg)) := by
  rw [c15_threshold_eq c d f hdyn]
  split
  · exact Or.inr rfl
  · exact Or.inl rfl

/-- **C15 (4), recomputed when …** -/
theorem c15_threshold_recomputed (c : DCfg) (d : Det F) (f : Frame) (hdyn : c.dynamic = true)
    (hch : (updateBackground c { d with affected := false } f d.affected).2.2 = true)
    (hpv : d.backgroundFrames + 1 > c.previewFrames) :
    (detect c d f false).1.tempThresh =
      clampThresh c (F.trunc (meanOf F c (detect c d f false).1.bg)) := by
  rw [c15_threshold_eq c d f hdyn, if_pos ⟨hch, hpv⟩]

/-- **C15 (4), … and only then.** -/
theorem c15_threshold_kept (c : DCfg) (d : Det F) (f : Frame) (hdyn : c.dynamic = true)
    (h : (updateBackground c { d with affected := false } f d.affected).2.2 = false ∨
      d.backgroundFrames + 1 ≤ c.previewFrames) :
    (detect c d f false).1.tempThresh = d.tempThresh := by
  rw [c15_threshold_eq c d f hdyn, if_neg]
  rintro ⟨h1, h2⟩
  rcases h with h | h
  · rw [h] at h1
    exact Bool.noConfusion h1
  · omega

/-- what `changed` means: first background frame of the epoch, or some interior pixel was replaced
(previous frame FFC-affected, or `lower`) -/
theorem c15_changed_iff (c : DCfg) (d : Det F) (f : Frame) :
    (updateBackground c { d with affected := false } f d.affected).2.2 = true ↔
      d.backgroundFrames = 0 ∨
        ∃ y x, c.inI y x = true ∧
          (d.affected || F.lower (f y x) (d.weight y x) (d.bg y x)) = true := by
  rw [P15.detect_changed]
  -- on the first background frame both sides hold; otherwise `changed` is the `any` over the interior
  by_cases h0 : d.backgroundFrames = 0 <;>
    simp [changedNext, replaces, h0, List.any_eq_true, DCfg.mem_interior]

/-- when nothing changed the background is literally the old one (so the mean would be the same) -/
theorem c15_unchanged_bg (c : DCfg) (d : Det F) (f : Frame) (hdyn : c.dynamic = true)
    (h : (updateBackground c { d with affected := false } f d.affected).2.2 = false) :
    (detect c d f false).1.bg = d.bg := by
  rw [P15.detect_changed] at h
  funext y x
  rw [(P15.detect_dynamic c d f hdyn).1]
  unfold bgNext
  rw [if_neg]
  -- a replaced interior pixel would have been reported
  intro hr
  simp only [Bool.and_eq_true] at hr
  exact List.any_eq_false.1 (Bool.or_eq_false_iff.1 h).2 (y, x) ((DCfg.mem_interior c y x).2 hr.1) hr.2

/-! ## 5. the bounds -/

/-- **C15 (5).** `clampThresh` limits to `[threshMin, threshMax]`, a bound 0 being unset; inside the
range (and with both bounds unset) the value is returned unchanged.  The lower bound needs
`threshMin ≤ threshMax` when both are set: the upper bound is applied last (see the example below). -/
theorem c15_clamp_bounds (c : DCfg) (a : Nat) :
    (c.threshMin ≠ 0 → (c.threshMax = 0 ∨ c.threshMin ≤ c.threshMax) → c.threshMin ≤ clampThresh c a) ∧
    (c.threshMax ≠ 0 → clampThresh c a ≤ c.threshMax) ∧
    (c.threshMin = 0 → c.threshMax = 0 → clampThresh c a = a) ∧
    ((c.threshMin = 0 ∨ c.threshMin ≤ a) → (c.threshMax = 0 ∨ a ≤ c.threshMax) → clampThresh c a = a) :=
  ⟨P15.clampThresh_ge_min c a, P15.clampThresh_le_max c a,
   fun h1 h2 => P15.clampThresh_inside c a (Or.inl h1) (Or.inl h2),
   P15.clampThresh_inside c a⟩

/-- below / above the range the bound itself is returned -/
theorem c15_clamp_saturates (c : DCfg) (a : Nat) :
    (c.threshMin ≠ 0 → a ≤ c.threshMin → (c.threshMax = 0 ∨ c.threshMin ≤ c.threshMax) →
      clampThresh c a = c.threshMin) ∧
    (c.threshMax ≠ 0 → c.threshMax ≤ a → clampThresh c a = c.threshMax) := by
  refine ⟨fun hmin ha hmm => ?_, fun hmax ha => ?_⟩
  · rw [clampThresh, if_pos hmin, Nat.max_eq_right ha]
    rcases hmm with h0 | hle
    · exact if_neg (Decidable.not_not.2 h0)
    · simp only [Nat.min_eq_left hle, ite_self]
  · rw [clampThresh, if_pos hmax]
    refine Nat.min_eq_right (Nat.le_trans ha ?_)
    split
    · exact Nat.le_max_left ..
    · exact Nat.le_refl a

/-- **C15 (4)+(5).** A recomputed threshold lies within the configured bounds. -/
theorem c15_recomputed_within_bounds (c : DCfg) (d : Det F) (f : Frame) (hdyn : c.dynamic = true)
    (hch : (updateBackground c { d with affected := false } f d.affected).2.2 = true)
    (hpv : d.backgroundFrames + 1 > c.previewFrames) :
    (c.threshMin ≠ 0 → (c.threshMax = 0 ∨ c.threshMin ≤ c.threshMax) →
      c.threshMin ≤ (detect c d f false).1.tempThresh) ∧
    (c.threshMax ≠ 0 → (detect c d f false).1.tempThresh ≤ c.threshMax) := by
  rw [c15_threshold_recomputed c d f hdyn hch hpv]
  exact ⟨P15.clampThresh_ge_min c _, P15.clampThresh_le_max c _⟩

/-! ## 6. FFC-affected frames and fixed thresholding leave everything alone -/

/-- **C15 (6).** An FFC-affected frame updates neither the background nor the threshold (nor the
frame counter). -/
theorem c15_ffc_frame_leaves_background (c : DCfg) (d : Det F) (f : Frame) :
    (detect c d f true).1.bg = d.bg ∧ (detect c d f true).1.tempThresh = d.tempThresh ∧
      (detect c d f true).1.backgroundFrames = d.backgroundFrames :=
  P15.detect_static c d f true (Bool.and_false _)

/-- **C15 (6), fixed threshold.** Without dynamic thresholding no frame changes them. -/
theorem c15_static_leaves_background (c : DCfg) (d : Det F) (f : Frame) (ffc : Bool)
    (hdyn : c.dynamic = false) :
    (detect c d f ffc).1.bg = d.bg ∧ (detect c d f ffc).1.tempThresh = d.tempThresh ∧
      (detect c d f ffc).1.backgroundFrames = d.backgroundFrames :=
  P15.detect_static c d f ffc (by rw [hdyn]; rfl)

/-! ## 7. whole runs -/

/-- **C15 (7).** In every run from start-up (frames with any FFC flags, resets, in any order): if
dynamic thresholding is on and the last event was a non-FFC frame `f`, the interior background is not
warmer than `f`. -/
theorem c15_run_bg_not_warmer (hl : LowerLaw F) (c : DCfg) (hdyn : c.dynamic = true)
    (evs pre : List DEv) (f : Frame) (he : evs = pre ++ [.frame f false]) :
    ∀ y x, c.inI y x = true → (after c (init F c) evs).bg y x ≤ f y x := by
  subst he
  rw [after_snoc_frame]
  exact c15_bg_not_warmer hl c _ f hdyn

/-- the same for the stored frame with its replicated border -/
theorem c15_run_background_not_warmer (hl : LowerLaw F) (c : DCfg) (hdyn : c.dynamic = true)
    (hne : 2 * c.edge < c.resX ∧ 2 * c.edge < c.resY)
    (evs pre : List DEv) (f : Frame) (he : evs = pre ++ [.frame f false]) :
    ∀ y x, background c (after c (init F c) evs) y x ≤ f (c.clampY y) (c.clampX x) := by
  subst he
  rw [after_snoc_frame]
  exact c15_background_not_warmer hl c _ f hdyn hne

/-- In every run: a non-FFC frame that directly follows an FFC-affected frame, or a reset, re-seeds
the interior background from that frame. -/
theorem c15_run_reseed (c : DCfg) (hdyn : c.dynamic = true) (pre : List DEv) (g f : Frame) :
    (∀ y x, c.inI y x = true →
      (after c (init F c) (pre ++ [.frame g true, .frame f false])).bg y x = f y x) ∧
    (∀ y x, c.inI y x = true →
      (after c (init F c) (pre ++ [.reset, .frame f false])).bg y x = f y x) := by
  constructor
  · rw [List.append_cons, after_snoc_frame, after_snoc_frame]
    exact c15_reseed_after_ffc c _ f hdyn (Or.inl (detect_affected c _ g true))
  · rw [List.append_cons, after_snoc_frame, after_snoc_reset]
    exact c15_reseed_after_reset c _ f hdyn

/-- A run whose only event is a non-FFC frame: that frame seeds the interior background. -/
theorem c15_run_first_frame (c : DCfg) (hdyn : c.dynamic = true) (f : Frame) :
    ∀ y x, c.inI y x = true → (after c (init F c) [.frame f false]).bg y x = f y x :=
  c15_reseed_after_ffc c (init F c) f hdyn (Or.inr rfl)

/-- In every run the threshold is the configured start value or a bounded value `clampThresh c a`;
hence, if the configured start value respects the bounds, so does the threshold at all times. -/
theorem c15_run_threshold_shape (c : DCfg) (evs : List DEv) :
    (after c (init F c) evs).tempThresh = c.tempThresh ∨
      ∃ a, (after c (init F c) evs).tempThresh = clampThresh c a := by
  refine after_invariant c
    (fun d => d.tempThresh = c.tempThresh ∨ ∃ a, d.tempThresh = clampThresh c a)
    ?_ ?_ (init F c) (Or.inl rfl) evs
  · intro d f ffc hd
    rcases pre_cases c ffc with hb | ⟨hdyn, rfl⟩
    · show (detect c d f ffc).1.tempThresh = _ ∨ ∃ a, (detect c d f ffc).1.tempThresh = _
      rw [(P15.detect_static c d f ffc hb).2.1]
      exact hd
    · show (detect c d f false).1.tempThresh = _ ∨ ∃ a, (detect c d f false).1.tempThresh = _
      rcases c15_threshold_is_bounded_mean c d f hdyn with h | h
      · rw [h]
        exact hd
      · exact Or.inr ⟨_, h⟩
  · intro d hd
    exact hd

theorem c15_run_threshold_within_bounds (c : DCfg) (evs : List DEv)
    (hmm : c.threshMin = 0 ∨ c.threshMax = 0 ∨ c.threshMin ≤ c.threshMax)
    (h0min : c.threshMin = 0 ∨ c.threshMin ≤ c.tempThresh)
    (h0max : c.threshMax = 0 ∨ c.tempThresh ≤ c.threshMax) :
    (c.threshMin = 0 ∨ c.threshMin ≤ (after c (init F c) evs).tempThresh) ∧
    (c.threshMax = 0 ∨ (after c (init F c) evs).tempThresh ≤ c.threshMax) := by
  rcases c15_run_threshold_shape (F := F) c evs with h | ⟨a, h⟩
  · rw [h]
    exact ⟨h0min, h0max⟩
  · rw [h]
    exact ⟨Decidable.or_iff_not_imp_left.2 fun hm => P15.clampThresh_ge_min c a hm (hmm.resolve_left hm),
      Decidable.or_iff_not_imp_left.2 (P15.clampThresh_le_max c a)⟩

/-- With fixed thresholding nothing ever happens: in every run the threshold stays the configured
one and the background is never written. -/
theorem c15_run_static (c : DCfg) (hdyn : c.dynamic = false) (evs : List DEv) :
    (after c (init F c) evs).tempThresh = c.tempThresh ∧
      (after c (init F c) evs).bg = zeroFrame ∧ (after c (init F c) evs).bgSeeded = false := by
  have h := PipeC09.fixed_after F c hdyn evs
  exact ⟨h.t, h.bg, h.seeded⟩

/-! ## Non-vacuity

A tiny concrete instance, evaluated by `decide`: weights are naturals, `lower new w bg` is
`new < bg + w` (i.e. `new − w < bg`), `bump` adds 1, and — to stay inside `Nat` — the accumulator
SUMS the interior instead of averaging it (`add _ acc px = acc + px`); nothing above depends on
what `add`/`trunc` compute.  Frame 4 × 4, `edge = 1`: the interior is the 2 × 2 block
(1,1) (1,2) (2,1) (2,2). -/

def exF : FloatOps :=
  { ω := Nat, w0 := 0, lower := fun new w bg => decide (new < bg + w), bump := (· + 1),
    α := Nat, a0 := 0, add := fun _ acc px => acc + px, trunc := fun a => a }

def exC : DCfg :=
  { resX := 4, resY := 4, edge := 1, gap := 1, useOneDiff := false, deltaThresh := 5, countThresh := 1,
    tempThresh := 50, threshMin := 10, threshMax := 100, warmerOnly := true, dynamic := true,
    previewFrames := 1, ffcPeriod := 0 }

/-- interior 11 12 / 21 22 -/
def exA : Frame := fun y x => 10 * y + x
/-- colder than `exA` at (1,1), warmer elsewhere -/
def exB : Frame := fun y x => if y = 1 ∧ x = 1 then 5 else 30
def exFlat (v : Nat) : Frame := fun _ _ => v

/-- the law is satisfiable -/
example : LowerLaw exF := by
  have h : ∀ (new bg w : Nat), new < bg → decide (new < bg + w) = true := by
    intro new bg w h
    simp only [decide_eq_true_eq]
    omega
  exact h

/-- the side condition of (2) holds for the instance -/
example : 2 * exC.edge < exC.resX ∧ 2 * exC.edge < exC.resY := by decide

/-- frame 1 seeds the background; one frame is not more than `previewFrames`: threshold kept -/
example :
    let d := after exC (init exF exC) [.frame exA false]
    d.bg 1 1 = 11 ∧ d.bg 2 2 = 22 ∧ d.backgroundFrames = 1 ∧ d.tempThresh = 50 := by decide

/-- frame 2: (1,1) is colder and is lowered, the others are warmer and are kept (so `≤` in (1) is
strict there); `changed` and 2 > `previewFrames`: the threshold becomes the (here: sum)
5 + 12 + 21 + 22 = 60, which lies inside [10, 100] and is returned unclamped -/
example :
    let d := after exC (init exF exC) [.frame exA false, .frame exB false]
    d.bg 1 1 = 5 ∧ d.bg 1 2 = 12 ∧ d.bg 1 2 < exB 1 2 ∧ d.bg 2 1 = 21 ∧ d.bg 2 2 = 22 ∧
      d.tempThresh = 60 := by decide

/-- the hypotheses of `c15_threshold_recomputed` are satisfiable (state after frame 1, frame `exB`) -/
example :
    let d := after exC (init exF exC) [.frame exA false]
    (updateBackground exC { d with affected := false } exB d.affected).2.2 = true ∧
      d.backgroundFrames + 1 > exC.previewFrames := by decide

/-- the hypothesis of `c15_threshold_kept` / `c15_unchanged_bg` is satisfiable: a warmer frame
changes nothing -/
example :
    let d := after exC (init exF exC) [.frame exA false, .frame exB false]
    (updateBackground exC { d with affected := false } (exFlat 50) d.affected).2.2 = false ∧
      (detect exC d (exFlat 50) false).1.tempThresh = 60 ∧
      (detect exC d (exFlat 50) false).1.bg 1 1 = 5 := by decide

/-- the border replicates the nearest interior pixel: corners and an edge -/
example :
    let d := after exC (init exF exC) [.frame exA false, .frame exB false]
    background exC d 0 0 = 5 ∧ background exC d 0 3 = 12 ∧ background exC d 3 0 = 21 ∧
      background exC d 3 3 = 22 ∧ background exC d 2 3 = 22 ∧ background exC d 1 1 = 5 := by decide

/-- before the first update the stored background is all zero -/
example : background exC (init exF exC) 1 1 = 0 ∧ background exC (init exF exC) 0 0 = 0 := by decide

/-- an FFC-affected frame changes nothing; the next non-FFC frame re-seeds the background from the
(much warmer) frame and the threshold saturates at `threshMax` (sum 160 > 100) -/
example :
    let d := after exC (init exF exC) [.frame exA false, .frame exB false, .frame (exFlat 0) true]
    d.bg 1 1 = 5 ∧ d.bg 2 2 = 22 ∧ d.tempThresh = 60 ∧ d.affected = true := by decide

example :
    let d := after exC (init exF exC)
      [.frame exA false, .frame exB false, .frame (exFlat 0) true, .frame (exFlat 40) false]
    d.bg 1 1 = 40 ∧ d.bg 1 2 = 40 ∧ d.bg 2 1 = 40 ∧ d.bg 2 2 = 40 ∧ d.tempThresh = 100 := by decide

/-- a reset restarts the epoch: the next frame re-seeds (warmer than the old background), but one
frame is not more than `previewFrames`, so the threshold is kept -/
example :
    let d := after exC (init exF exC) [.frame exA false, .frame exB false, .reset, .frame (exFlat 40) false]
    d.bg 1 1 = 40 ∧ d.bg 2 2 = 40 ∧ d.backgroundFrames = 1 ∧ d.tempThresh = 60 := by decide

/-- a cold scene: the threshold saturates at `threshMin` (sum 4 < 10) -/
example :
    (after exC (init exF exC) [.frame exA false, .frame (exFlat 1) false]).tempThresh = 10 := by decide

/-- `clampThresh`: below, inside, above; unset bounds -/
example : clampThresh exC 3 = 10 ∧ clampThresh exC 60 = 60 ∧ clampThresh exC 500 = 100 := by decide
example : clampThresh { exC with threshMin := 0, threshMax := 0 } 500 = 500 ∧
    clampThresh { exC with threshMin := 0 } 3 = 3 ∧ clampThresh { exC with threshMax := 0 } 500 = 500 := by
  decide

/-- the side condition `threshMin ≤ threshMax` of the lower bound in (5) is needed: with the bounds
crossed the upper bound wins and the result is below `threshMin` -/
example : clampThresh { exC with threshMin := 10, threshMax := 5 } 7 = 5 := by decide

/-- the configured start threshold is NOT clamped: until the first recomputation the threshold may
lie outside the bounds (hypotheses `h0min`/`h0max` of `c15_run_threshold_within_bounds`) -/
example :
    (after { exC with tempThresh := 500 } (init exF { exC with tempThresh := 500 })
      [.frame exA false]).tempThresh = 500 := by decide

end TR.C15
