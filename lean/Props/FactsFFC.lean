import Generated.Facts
/-! # Source facts — C07 C08 C09: the FFC period -/
namespace TR.FactsProc
open Facts

/-- C09: frames within 10 s after an FFC are "affected" -/
theorem ffc_period : ffcPeriodNs = 10 * 1000000000 ∧ ffcTest = "f.Status.TimeOn-f.Status.LastFFCTime < ffcPeriod" := ⟨rfl, rfl⟩

end TR.FactsProc
