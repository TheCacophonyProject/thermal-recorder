import Proofs.ThrottleC06
/-!
# C06 — the throttle is transparent until it throttles, pairs base calls, cuts cleanly and
reports one event per incident

Quantifier: every bucket capacity and quantum, every minimum recording length, every list of
upstream start / write / stop requests that obeys the recorder protocol (`utrace` drops the
requests the protocol forbids), with ANY clock — not even a non-decreasing one is needed, because
the bucket's `adjust` uses truncated subtraction and never lowers `avail` — and every pattern of
base-recorder failures.

The monitor `monC06` (TR/ThrMon.lean) checks on the trace:
* pairing: `base.Start` only while no base file is open, `base.Write`/`base.Stop` only while one is;
* an upstream stop is forwarded iff a base file is open;
* a file closed by a throttle cut (a `base.Stop` inside a write request) holds ≥ `minLen` frames;
* exactly one `throttled` event per suppressed start and per cut, none otherwise (never per frame);
* until the first `throttled` event every request is forwarded unchanged.
-/
namespace TR.C06

set_option linter.unusedVariables false in
/-- **C06.** For every bucket (cap, q ≥ 1), every minimum length, every upstream request list (the
upstream obeys the recorder protocol — that is what `utrace` encodes) with any clock, and every
pattern of base-recorder failures: the base recorder sees properly paired calls, a stop is
forwarded iff a file is open, a file closed by a throttle cut holds at least `minLen` frames,
exactly one `throttled` event is emitted per suppressed start or cut (never one per frame), and
until the first throttling every request is forwarded unchanged.
(`hc`, `hq` document the real bucket; the proof does not use them — see `c06_monitor_any_bucket`.) -/
theorem c06_monitor (cap q minLen : Nat) (hc : 0 < cap) (hq : 0 < q) (reqs : List TReq) :
    monC06 minLen (utrace { t := TState.init cap q minLen } reqs) = [] :=
  monC06_ok cap q minLen reqs

/-- **C06**, without the side conditions on the bucket and without any clock hypothesis. -/
theorem c06_monitor_any_bucket (cap q minLen : Nat) (reqs : List TReq) :
    monC06 minLen (utrace { t := TState.init cap q minLen } reqs) = [] :=
  monC06_ok cap q minLen reqs

/-- **C06 (c), spelled out.** Every base start happens with `Available() ≥ minLen`: whenever
`maybeStartRecording` touches the base recorder, the bucket holds a whole minimum-length file. -/
theorem c06_start_has_min_tokens (s : TState) (tick tag : Nat) (ok : Bool)
    (h : (s.maybeStart tick tag ok).2.1 ≠ []) : (s.bucket.available tick).2 ≥ s.minLen := by
  by_cases hge : (s.bucket.available tick).2 ≥ s.minLen
  · exact hge
  · exact absurd (by simp only [TState.maybeStart, hge, if_false]) h

/-- **C06 (cut), spelled out.** A write request made while recording is either forwarded
unchanged or — only when the bucket was empty before the call — answered by exactly one
`throttled` event followed by one `base.Stop`. -/
theorem c06_write_forward_or_cut (s : TState) (tk id : Nat) (sok wok pok : Bool)
    (hr : s.recording = true) :
    (s.step (.write tk id sok wok pok)).2 = [TObs.bWrite id wok, TObs.ret wok] ∨
    ((s.step (.write tk id sok wok pok)).2 = [TObs.throttled, TObs.bStop pok, TObs.ret pok] ∧
      s.bucket.avail = 0) := by
  rw [TState.step_write_rec _ _ _ _ _ _ hr]
  rcases Bucket.take1_cases s.bucket tk with ⟨h, _⟩ | ⟨h, hz⟩
  · exact .inl (by rw [if_pos h])
  · exact .inr ⟨by rw [if_neg h], hz⟩

/-- a cut, then silence (no event per frame), then a restart once tokens are back -/
example :
    let reqs : List TReq := [.start 0 7 true, .write 0 1 true true true, .write 0 2 true true true,
                             .write 0 3 true true true, .write 0 4 true true true,
                             .write 9 5 true true true, .stop true, .stop true]
    (utrace { t := TState.init 2 1 2 } reqs).map (·.obs) =
      [[.bStart 7 true, .ret true], [.bWrite 1 true, .ret true], [.bWrite 2 true, .ret true],
       [.throttled, .bStop true, .ret true], [.ret true],
       [.bStart 7 true, .bWrite 5 true, .ret true], [.bStop true, .ret true]] := by decide +kernel

/-- a suppressed start: one event, then nothing is forwarded and nothing more is reported -/
example :
    let reqs : List TReq := [.start 0 7 true, .write 0 1 true true true, .write 0 2 true true true,
                             .stop true]
    (utrace { t := TState.init 2 1 3 } reqs).map (·.obs) =
      [[.throttled, .ret true], [.ret true], [.ret true], [.ret true]] := by decide +kernel

/-- the monitor is not trivially empty: a cut after one frame with `minLen = 2` is rejected … -/
example :
    monC06 2 [{ req := .start 0 7 true, obs := [.bStart 7 true, .ret true] },
              { req := .write 0 1 true true true, obs := [.bWrite 1 true, .ret true] },
              { req := .write 0 2 true true true, obs := [.throttled, .bStop true, .ret true] }]
      = ["C06:cut-file-shorter-than-minimum"] := rfl

/-- … and so are one event per frame, and a request altered before any throttling -/
example :
    monC06 0 [{ req := .start 0 7 true, obs := [.throttled, .ret true] },
              { req := .write 0 1 true true true, obs := [.throttled, .ret true] }]
      = ["C06:throttled-event-count"] := rfl

example :
    monC06 0 [{ req := .start 0 7 true, obs := [.bStart 8 true, .ret true] }]
      = ["C06:start-not-transparent"] := rfl

end TR.C06
