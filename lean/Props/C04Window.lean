import TR.Window
/-!
# C04 (window and disk gate): `Active()` is exactly "time of day ∈ [start, stop)" cyclically
-/
namespace TR.C04W
open TR.Window

/-- **Window.** For all start/stop times of day and all clock readings: the window is open iff
start = stop (no window) or the time of day lies in the half-open cyclic interval
[start, stop) — start included, stop excluded, also for windows spanning midnight. -/
theorem c04_window_active_iff (S E tod : Nat) (hS : S < DAY) (hE : E < DAY) (ht : tod < DAY) :
    active S E tod = true ↔
      (S = E ∨ (S < E ∧ S ≤ tod ∧ tod < E) ∨ (E < S ∧ (S ≤ tod ∨ tod < E))) := by
  have hd : DAY = 86400000000000 := by decide
  unfold active nextAbs
  by_cases hse : S = E
  · simp [hse]
  · simp only [hse, if_false, decide_eq_true_eq, false_or]
    -- the four positions of `tod` relative to `E` and to `S`; each is linear arithmetic
    split <;> split <;> omega

/-- both boundaries, to the nanosecond -/
theorem c04_window_boundaries (S E : Nat) (hS : S < DAY) (hE : E < DAY) (hne : S ≠ E) :
    active S E S = true ∧ active S E E = false := by
  have hd : DAY = 86400000000000 := by decide
  unfold active nextAbs
  simp only [hne, if_false]
  constructor
  · by_cases h : E > S <;> simp [h] <;> omega
  · by_cases h : S > E <;> simp [h] <;> omega

/-- **Disk gate.** `enoughSpace` is monotone in the free space and exact at the boundary. -/
theorem c04_disk_gate (bavail bsize mb : Nat) :
    enoughSpace bavail bsize mb = true ↔ mb * 1048576 ≤ bavail * bsize := by
  unfold enoughSpace
  simp only [decide_eq_true_eq, ge_iff_le]
  have e : bavail * bsize / 1024 / 1024 = bavail * bsize / 1048576 := by
    rw [Nat.div_div_eq_div_mul]
  rw [e]
  exact Nat.le_div_iff_mul_le (by omega)

example : active (22 * 3600 * 1000000000) (6 * 3600 * 1000000000) (23 * 3600 * 1000000000) = true := by decide +kernel
example : active (22 * 3600 * 1000000000) (6 * 3600 * 1000000000) (6 * 3600 * 1000000000) = false := by decide +kernel
example : active (10 * 3600 * 1000000000) (11 * 3600 * 1000000000) (11 * 3600 * 1000000000 - 1) = true := by decide +kernel

end TR.C04W
