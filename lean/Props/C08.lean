import Proofs.DetC08
/-!
# C08 — border pixels and sub-threshold pixels never influence the motion detector

Relational (two-run) statements about the detector model `TR.Det` (motion/motion.go).  The
vocabulary is defined in `Proofs/Det.lean` (`IntEq`) and `Proofs/DetC08.lean` (`SameInterior`, `FloorEq`,
`SameFloored`):

* `IntEq c f g` — the frames `f`, `g` agree on every interior pixel
  (`edge ≤ y < resY − edge`, `edge ≤ x < resX − edge`);
* `SameInterior c as bs` — the event lists have the same skeleton (same resets, same FFC flags)
  and corresponding frames are `IntEq`;
* `FloorEq c f g` — on the interior `max (f y x) T = max (g y x) T`, `T = c.tempThresh`;
* `SameFloored c as bs` — same skeleton, corresponding frames `FloorEq`.

Quantifier: every instance of the floating-point parameter, every configuration (any `edge ≥ 0`,
any resolution, fixed or dynamic threshold for (1); fixed threshold for (2)), every pair of event
lists (frames with arbitrary FFC flags, resets) related as above, both runs starting from the
initial detector.
-/
namespace TR.C08

/-- **C08 (1).** Border pixels never influence anything: fixed OR dynamic threshold, any edge ≥ 0.
Two runs whose frames agree on the interior give the same verdicts, end with the same temperature
threshold and with backgrounds that agree on the interior. -/
theorem c08_border (F : FloatOps) (c : DCfg) (as bs : List DEv) (h : SameInterior c as bs) :
    Det.outputs c (Det.init F c) as = Det.outputs c (Det.init F c) bs ∧
    (Det.after c (Det.init F c) as).tempThresh = (Det.after c (Det.init F c) bs).tempThresh ∧
    IntEq c (Det.after c (Det.init F c) as).bg (Det.after c (Det.init F c) bs).bg := by
  obtain ⟨ho, hr⟩ := Rel1.run h _ _ (Rel1.init F c)
  exact ⟨ho, hr.tempThresh, hr.bg⟩

/-- **C08 (1), the stored background frame.** With a non-empty interior the background frame as
stored by the Go code (interior plus replicated border) is the same everywhere in both runs, and it
has been seeded in one run iff in the other.  (`hne` is needed only here: replication reads the
nearest interior pixel, which exists iff the interior is non-empty.) -/
theorem c08_background (F : FloatOps) (c : DCfg)
    (hne : 2 * c.edge < c.resX ∧ 2 * c.edge < c.resY)
    (as bs : List DEv) (h : SameInterior c as bs) :
    Det.background c (Det.after c (Det.init F c) as) =
      Det.background c (Det.after c (Det.init F c) bs) ∧
    (Det.after c (Det.init F c) as).bgSeeded = (Det.after c (Det.init F c) bs).bgSeeded := by
  obtain ⟨_, hr⟩ := Rel1.run h _ _ (Rel1.init F c)
  refine ⟨?_, hr.bgSeeded⟩
  funext y x
  simp only [Det.background]
  rw [hr.bgSeeded, hr.bg _ _ (DCfg.inI_clamp c hne y x)]

/-- **C08 (1), everything else the detector keeps.** The remaining scalar state agrees too, the
per-pixel weights agree on the interior, and both frame rings have the same shape with
interior-equal slots. -/
theorem c08_border_state (F : FloatOps) (c : DCfg) (as bs : List DEv) (h : SameInterior c as bs) :
    Rel1 c (Det.after c (Det.init F c) as) (Det.after c (Det.init F c) bs) :=
  (Rel1.run h _ _ (Rel1.init F c)).2

/-- **C08 (2).** With a fixed threshold, sub-threshold (cold) pixels never influence detection:
two runs whose frames agree on the interior once raised to the threshold give the same verdicts. -/
theorem c08_cold (F : FloatOps) (c : DCfg) (hdyn : c.dynamic = false) (as bs : List DEv)
    (h : SameFloored c as bs) :
    Det.outputs c (Det.init F c) as = Det.outputs c (Det.init F c) bs :=
  Rel2.outputs F hdyn h.skel

/-- **C08 (1)+(2) combined.** With a fixed threshold the verdicts depend only on the interior pixels
raised to the threshold (`SameInterior` is the special case of equal interior pixels). -/
theorem c08_cold_of_interior (F : FloatOps) (c : DCfg) (hdyn : c.dynamic = false)
    (as bs : List DEv) (h : SameInterior c as bs) :
    Det.outputs c (Det.init F c) as = Det.outputs c (Det.init F c) bs :=
  Rel2.outputs F hdyn (h.skel.mono fun f g hfg y x hi => by rw [hfg y x hi])

/-! ### Non-vacuity -/

/-- a small instance of the floating-point parameter (integer arithmetic) -/
def natOps : FloatOps :=
  { ω := Nat, w0 := 0, lower := fun n w b => decide (n < b + w), bump := fun w => w + 1,
    α := Nat, a0 := 0, add := fun _ acc p => acc + p, trunc := fun a => a / 4 }

/-- 4×4 sensor, one border pixel all round (2×2 interior), gap 1, dynamic threshold -/
def cfgB : DCfg :=
  { resX := 4, resY := 4, edge := 1, gap := 1, useOneDiff := false, deltaThresh := 3,
    countThresh := 2, tempThresh := 10, threshMin := 0, threshMax := 0, warmerOnly := false,
    dynamic := true, previewFrames := 0, ffcPeriod := 0 }

/-- the same with a fixed threshold of 10 -/
def cfgF : DCfg := { cfgB with dynamic := false }

def flat (v : Nat) : Frame := fun _ _ => v
/-- `v` on the interior rows, garbage in the top row -/
def hotBorder (v : Nat) : Frame := fun y _ => if y = 0 then 60000 else v

theorem intEq_hot (v : Nat) : IntEq cfgB (hotBorder v) (flat v) := by
  intro y x hi
  simp only [DCfg.inI, Bool.and_eq_true, decide_eq_true_eq] at hi
  simp only [DCfg.rowStop, DCfg.colStop, cfgB] at hi
  simp only [hotBorder, flat]
  rw [if_neg (by omega)]

/-- the hypothesis of `c08_border` holds for runs that differ (only) on the border … -/
example : SameInterior cfgB
    [.frame (hotBorder 20) false, .frame (flat 30) true, .reset, .frame (hotBorder 40) false]
    [.frame (flat 20) false, .frame (flat 30) true, .reset, .frame (flat 40) false] :=
  .frame (intEq_hot 20) (.frame (IntEq.refl _ _) (.reset (.frame (intEq_hot 40) .nil)))

/-- … and the frames really differ there -/
example : hotBorder 20 0 0 ≠ flat 20 0 0 := by decide

/-- the interior of `cfgB` is non-empty (hypothesis `hne` of `c08_background`) -/
example : 2 * cfgB.edge < cfgB.resX ∧ 2 * cfgB.edge < cfgB.resY := by decide

/-- the verdict lists compared by `c08_border` are not trivially all-`false`: with a dynamic
threshold the dirty-border run reports motion on its third frame -/
example :
    Det.outputs cfgB (Det.init natOps cfgB)
      [.frame (hotBorder 20) false, .frame (hotBorder 30) false, .frame (hotBorder 40) false] =
      [false, false, true] := by
  decide

/-- cold pixels: everything at or below the threshold 10 is the same frame to the detector -/
theorem floorEq_cold (a b : Nat) (ha : a ≤ 10) (hb : b ≤ 10) : FloorEq cfgF (flat a) (flat b) := by
  intro y x _
  show max a 10 = max b 10
  omega

/-- the hypotheses of `c08_cold` hold for runs that differ on every (cold) pixel … -/
example : cfgF.dynamic = false ∧ SameFloored cfgF
    [.frame (flat 3) false, .reset, .frame (flat 7) true, .frame (flat 30) false]
    [.frame (flat 9) false, .reset, .frame (flat 0) true, .frame (flat 30) false] :=
  ⟨rfl, .frame (floorEq_cold 3 9 (by decide) (by decide))
    (.reset (.frame (floorEq_cold 7 0 (by decide) (by decide)) (.frame (FloorEq.refl _ _) .nil)))⟩

/-- … and with a fixed threshold the detector does report motion (third frame), also when the
earlier frames are cold -/
example :
    Det.outputs cfgF (Det.init natOps cfgF)
      [.frame (flat 3) false, .frame (flat 30) false, .frame (flat 40) false] =
      [false, false, true] := by
  decide

/-- `c08_cold` needs the fixed threshold: with a dynamic threshold cold pixels DO matter (they
feed the background mean and so the threshold).  Two runs that are `SameFloored` for `cfgB`'s
initial threshold 10 but give different verdicts. -/
example :
    SameFloored cfgB
      [.frame (flat 0) false, .frame (flat 6) false, .frame (flat 11) false]
      [.frame (flat 10) false, .frame (flat 10) false, .frame (flat 11) false] ∧
    Det.outputs cfgB (Det.init natOps cfgB)
      [.frame (flat 0) false, .frame (flat 6) false, .frame (flat 11) false] ≠
    Det.outputs cfgB (Det.init natOps cfgB)
      [.frame (flat 10) false, .frame (flat 10) false, .frame (flat 11) false] := by
  refine ⟨.frame ?_ (.frame ?_ (.frame (FloorEq.refl _ _) .nil)), by decide⟩
  · intro y x _; show max 0 10 = max 10 10; decide
  · intro y x _; show max 6 10 = max 10 10; decide

end TR.C08
