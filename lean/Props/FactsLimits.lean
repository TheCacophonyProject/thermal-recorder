import Generated.Facts
/-! # Source facts — C03 C17 C11: minF / maxF -/
namespace TR.FactsProc
open Facts

/-- C03: the limits are min-secs*fps and max-secs*fps (`minF`, `maxF` of the model) -/
theorem limits_expr : minFramesExpr = "recorderConf.MinSecs * c.FPS()" ∧ maxFramesExpr = "recorderConf.MaxSecs * c.FPS()" :=
  ⟨rfl, rfl⟩

end TR.FactsProc
