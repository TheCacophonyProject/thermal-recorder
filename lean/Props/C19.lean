import Proofs.RingSpec
/-!
# C19 — Frame ring buffer returns exactly the retained history, oldest first

Quantifier: every capacity ≥ 1, every sequence of push (fill current frame + Move) /
set-as-oldest / reset operations (`c19_*`), and additionally every sequence of the raw
operations write / move / mark / reset in any order (`c19_raw_*`, "GetHistory never panics").
-/
namespace TR.C19

variable {α : Type}

/-- the ring reached from `NewFrameLoop(size)` by protocol operations -/
abbrev ringAfter (size : Nat) (blank : α) (ops : List (POp α)) : Ring α :=
  ops.foldl Ring.applyP (Ring.new size blank)

/-- the specification state after the same operations -/
abbrev specAfter (ops : List (POp α)) : Spec α := ops.foldl Spec.apply Spec.init

/-- **C19 (history).** `GetHistory` returns exactly the retained frames: the completed frames
from index `lo = max mark (completed + 1 − capacity)` on, oldest first, then the current frame.
In particular it never panics. -/
theorem c19_history (size : Nat) (hs : 1 ≤ size) (blank : α) (ops : List (POp α)) (cur : α) :
    ((ringAfter size blank ops).write cur).history
      = some ((specAfter ops).history size cur) := by
  obtain ⟨g, hr, hsr⟩ := reach size hs blank ops
  have := history_spec _ g _ cur hr hsr
  rwa [size_foldl_applyP] at this

/-- the returned history holds at most `capacity` frames and at least the current one -/
theorem c19_history_length (size : Nat) (hs : 1 ≤ size) (s : Spec α) (cur : α)
    (_hm : s.mark ≤ s.done.length) :
    1 ≤ (s.history size cur).length ∧ (s.history size cur).length ≤ size := by
  unfold Spec.history Spec.lo
  simp only [List.length_append, List.length_drop, List.length_singleton]
  omega

/-- the history is a suffix of "all completed frames, then the current one": oldest-to-newest,
ending with the current frame, with nothing skipped -/
theorem c19_history_suffix (size : Nat) (s : Spec α) (cur : α) :
    s.done.take (s.lo size) ++ s.history size cur = s.done ++ [cur] := by
  unfold Spec.history
  rw [← List.append_assoc, List.take_append_drop]

/-- no frame completed before the mark is returned, and (since `done` only holds frames
completed after creation / the last reset) no slot from before a reset -/
theorem c19_history_after_mark (size : Nat) (s : Spec α) : s.mark ≤ s.lo size := by
  unfold Spec.lo; omega

/-- the mark is honoured exactly while the marked frame is still buffered -/
theorem c19_lo_is_mark (size : Nat) (s : Spec α) (h : s.done.length < s.mark + size) :
    s.lo size = s.mark := by
  unfold Spec.lo; omega

/-- **C19 (oldest).** `Oldest()` is the head of the history: the marked frame while it is
buffered, otherwise the frame about to be overwritten. -/
theorem c19_oldest (size : Nat) (hs : 1 ≤ size) (blank : α) (ops : List (POp α)) (cur : α) :
    some ((ringAfter size blank ops).write cur).oldestFrame
      = ((specAfter ops).history size cur).head? := by
  obtain ⟨g, hr, hsr⟩ := reach size hs blank ops
  have := oldest_spec _ g _ cur hr hsr
  rwa [size_foldl_applyP] at this

/-- **C19 (recent).** `CopyRecent()` is the frame completed just before the current one, and
nil while no frame has been completed since creation / reset (capacity ≥ 2). -/
theorem c19_recent (size : Nat) (hs : 2 ≤ size) (blank : α) (ops : List (POp α)) :
    (ringAfter size blank ops).recent = (specAfter ops).done.getLast? := by
  obtain ⟨g, hr, hsr⟩ := reach size (by omega) blank ops
  exact recent_spec _ g _ hr hsr (by rw [size_foldl_applyP]; exact hs)

/-- Capacity 1 corner, stated as what the code does: once a frame has been completed the single
slot is both "current" and "recent"; a one-slot buffer cannot retain the frame before the current one. -/
theorem c19_recent_capacity_one (blank : α) (ops : List (POp α)) (cur : α) :
    ((ringAfter 1 blank ops).write cur).recent = if (specAfter ops).done = [] then none else some cur := by
  obtain ⟨g, hr, hsr⟩ := reach 1 (by omega) blank ops
  exact recent_spec_size_one _ g _ cur hr hsr (size_foldl_applyP ops _)

/-- **C19 (raw operations).** For *any* order of write / move / mark / reset (also moves over
unwritten slots) `GetHistory` never hits the slice-bounds panic and returns the ghost window
`lo..n`, which lies inside the current epoch (every index ≤ n). -/
theorem c19_raw_history (size : Nat) (hs : 1 ≤ size) (blank : α) (ops : List (RingOp α)) :
    let st := runOps (Ring.new size blank, { n := 0, mark := 0, vals := fun _ => blank }) ops
    st.1 = ops.foldl Ring.apply (Ring.new size blank) ∧
    st.1.history = some ((List.range' (st.2.lo size) (st.2.n + 1 - st.2.lo size)).map st.2.vals) ∧
    st.2.lo size ≤ st.2.n ∧ st.2.n + 1 - st.2.lo size ≤ size := by
  intro st
  have hinv := inv_runOps ops _ _ (inv_new size blank hs)
  have hsz : st.1.size = size := by
    rw [show st.1 = _ from runOps_ring _ _ _, size_foldl_apply]; rfl
  have hw := n_lt_lo_add st.2 size
  exact ⟨runOps_ring _ _ _, hsz ▸ history_eq _ _ hinv, lo_le_n _ _ hinv.2.2.2.1 hs, by omega⟩

/-! ### Non-vacuity: concrete runs -/

/-- capacity 3: five pushes, a mark after the 4th; history = [marked.., current] -/
example : ((ringAfter 3 0 [.push 10, .push 11, .push 12, .push 13, .mark, .push 14]).write 15).history
    = some [14, 15] := by decide +kernel
example : ((ringAfter 3 0 [.push 10, .push 11, .push 12, .push 13]).write 14).history
    = some [12, 13, 14] := by decide +kernel
example : (specAfter [.push 10, .push 11, .push 12, .push 13, .mark, .push 14]).history 3 15 = [14, 15] := by
  decide +kernel
example : (ringAfter 3 0 [.push 10, .push 11, .push 12, .push 13]).recent = some 13 := by decide +kernel
example : (ringAfter 3 0 ([] : List (POp Nat))).recent = none := by decide +kernel
example : ((ringAfter 3 0 [.push 10, .reset, .push 20]).write 21).history = some [20, 21] := by decide +kernel

end TR.C19
