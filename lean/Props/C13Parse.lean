import TR.Parse
/-!
# C13 (parsing): a raw frame is rejected iff it has a zero pixel outside the edge border;
valid frames are decoded pixel-exactly, Lepton telemetry word-exactly — both formats
-/
namespace TR.C13P
open TR.Parse

theorem mem_coords (w h y x : Nat) : (y, x) ∈ coords w h ↔ y < h ∧ x < w := by
  unfold coords
  simp only [List.mem_flatMap, List.mem_range, List.mem_map, Prod.mk.injEq]
  constructor
  · rintro ⟨a, ha, b, hb, rfl, rfl⟩; exact ⟨ha, hb⟩
  · rintro ⟨h1, h2⟩; exact ⟨y, h1, x, h2, rfl, rfl⟩

/-- the reported bad pixel is an interior zero pixel -/
theorem firstBad_spec (word : Raw → Nat → Nat) (raw : Raw) (off w h edge : Nat) (p : Nat × Nat)
    (hb : firstBad word raw off w h edge = some p) :
    p.1 < h ∧ p.2 < w ∧ onEdge w h edge p.1 p.2 = false ∧ pixel word raw off w p.1 p.2 = 0 := by
  unfold firstBad at hb
  have hm := List.mem_of_find?_eq_some hb
  have hq := List.find?_some hb
  have := (mem_coords w h p.1 p.2).mp hm
  simp only [Bool.and_eq_true, Bool.not_eq_true', beq_iff_eq] at hq
  exact ⟨this.1, this.2, hq.1, hq.2⟩

/-- **rejection ⇔ interior zero pixel**, for any word order, offset, resolution and edge -/
theorem firstBad_isSome_iff (word : Raw → Nat → Nat) (raw : Raw) (off w h edge : Nat) :
    (firstBad word raw off w h edge).isSome = true ↔
      ∃ y x, y < h ∧ x < w ∧ onEdge w h edge y x = false ∧ pixel word raw off w y x = 0 := by
  constructor
  · intro hs
    obtain ⟨p, hp⟩ := Option.isSome_iff_exists.mp hs
    exact ⟨p.1, p.2, firstBad_spec word raw off w h edge p hp⟩
  · rintro ⟨y, x, hy, hx, he, hz⟩
    unfold firstBad
    rw [List.find?_isSome]
    exact ⟨(y, x), (mem_coords w h y x).mpr ⟨hy, hx⟩, by simp [he, hz]⟩

/-- the shape of both parsers: reject at the first bad pixel, else deliver -/
theorem bad_iff_isSome (o : Option (Nat × Nat)) (pix : Nat → Nat → Nat) (t : Telemetry) :
    (∃ y x, (match o with | some p => Result.bad p.1 p.2 | none => .ok pix t) = Result.bad y x) ↔
      o.isSome = true := by
  cases o with
  | none => exact ⟨fun ⟨_, _, h⟩ => Result.noConfusion h, fun h => Bool.noConfusion h⟩
  | some p => exact ⟨fun _ => rfl, fun _ => ⟨p.1, p.2, rfl⟩⟩

theorem ok_iff_none (o : Option (Nat × Nat)) (pix pix' : Nat → Nat → Nat) (t t' : Telemetry) :
    (match o with | some p => Result.bad p.1 p.2 | none => .ok pix t) = Result.ok pix' t' ↔
      o = none ∧ pix = pix' ∧ t = t' := by
  cases o with
  | none => simp only [Result.ok.injEq, true_and]
  | some p => exact ⟨fun h => Result.noConfusion h, fun h => nomatch h.1⟩

/-- **Lepton.** Bad frame iff an interior pixel word (big-endian, after the telemetry) is zero. -/
theorem c13_lepton_bad_iff (raw : Raw) (w h edge : Nat) :
    (∃ y x, parseLepton raw w h edge = .bad y x) ↔
      ∃ y x, y < h ∧ x < w ∧ onEdge w h edge y x = false ∧ be16 raw (640 + 2 * (y * w + x)) = 0 :=
  (bad_iff_isSome _ _ _).trans (firstBad_isSome_iff be16 raw leptonTelemetryBytes w h edge)

/-- **Lepton, valid frame**: every pixel is the big-endian word at its position; telemetry fields are the
specified words (TimeOn / LastFFCTime in ms with Big16 32-bit order, temperatures in centi-kelvin). -/
theorem c13_lepton_ok (raw : Raw) (w h edge : Nat) (pix : Nat → Nat → Nat) (t : Telemetry)
    (hok : parseLepton raw w h edge = .ok pix t) :
    (∀ y x, pix y x = byteAt raw (640 + 2 * (y * w + x)) * 256 + byteAt raw (640 + 2 * (y * w + x) + 1)) ∧
    t.timeOnMs = be16 raw 2 + be16 raw 4 * 65536 ∧
    t.lastFFCMs = be16 raw 60 + be16 raw 62 * 65536 ∧
    t.fpaTempCK = be16 raw 48 ∧ t.fpaTempLastFFCCK = be16 raw 58 ∧
    (∀ y x, y < h → x < w → onEdge w h edge y x = false → pix y x ≠ 0) := by
  obtain ⟨hf, rfl, rfl⟩ := (ok_iff_none _ _ _ _ _).mp hok
  refine ⟨fun y x => rfl, rfl, rfl, rfl, rfl, fun y x hy hx he hz => ?_⟩
  have key := (firstBad_isSome_iff be16 raw leptonTelemetryBytes w h edge).mpr ⟨y, x, hy, hx, he, hz⟩
  rw [hf] at key; cases key

/-- **Boson.** Bad frame iff an interior pixel word (little-endian, from byte 0) is zero. -/
theorem c13_boson_bad_iff (raw : Raw) (w h edge : Nat) :
    (∃ y x, parseBoson raw w h edge = .bad y x) ↔
      ∃ y x, y < h ∧ x < w ∧ onEdge w h edge y x = false ∧ le16 raw (2 * (y * w + x)) = 0 := by
  have key := firstBad_isSome_iff le16 raw 0 w h edge
  simp only [pixel, Nat.zero_add] at key
  exact (bad_iff_isSome _ _ _).trans key

theorem c13_boson_ok (raw : Raw) (w h edge : Nat) (pix : Nat → Nat → Nat) (t : Telemetry)
    (hok : parseBoson raw w h edge = .ok pix t) :
    (∀ y x, pix y x = byteAt raw (2 * (y * w + x)) + byteAt raw (2 * (y * w + x) + 1) * 256) ∧
    t = bosonTelemetry := by
  obtain ⟨_, rfl, rfl⟩ := (ok_iff_none _ _ _ _ _).mp hok
  exact ⟨fun y x => by simp [pixel, le16], rfl⟩

/-- the border / interior boundary: a zero pixel in the border never rejects a frame -/
theorem c13_border_zero_ignored (w h edge y x : Nat) (hb : y < edge ∨ x < edge ∨ y ≥ h - edge ∨ x ≥ w - edge) :
    onEdge w h edge y x = true := by
  unfold onEdge
  rcases hb with h1 | h1 | h1 | h1 <;> simp [h1]

/-! non-vacuity: 3×3, edge 1 — only the centre pixel is interior -/
example : (match parseBoson (ofList [1,0, 1,0, 1,0,  1,0, 0,0, 1,0,  1,0, 1,0, 1,0]) 3 3 1 with
           | .bad y x => y == 1 && x == 1 | .ok _ _ => false) = true := by decide +kernel
example : (match parseBoson (ofList [0,0, 0,0, 0,0,  0,0, 5,1, 0,0,  0,0, 0,0, 0,0]) 3 3 1 with
           | .ok pix _ => pix 1 1 == 261 | .bad _ _ => false) = true := by decide +kernel

end TR.C13P
