import Proofs.ProcC12
/-!
# C17 — the continuous recorder tiles the stream; a test recording is `testLast + 1` frames

Quantifier: every configuration (any `maxF`, `testLast`, recorder on or off), every event list
with arbitrary motion, bad frames, resets and test requests.  `monC17` predicts, from its own
counters, the exact call list each valid frame must produce on the continuous sink (start at
position 0, one write of the frame's id, stop after `maxF + 1` frames; a bad frame closes the
file) and on the test sink (start on the first frame after a request, one write per frame, stop
after `testLast + 1` frames), independently of everything on the motion sink.  As in the monitor,
the claim stops applying once a continuous/test sink call was made to fail or a request
overlapped a test recording (`tainted`).  The ring capacity plays no role (`hK` is unused).
-/
namespace TR.C17

theorem c17_continuous_and_test (c : PCfg) (hK : 0 < c.K) (evs : List Ev) :
    monC17 c (PState.trace c (PState.init c) evs) = [] :=
  have _ := hK
  c17_all c evs

/-- non-vacuity: the monitor rejects a frame the continuous recorder skipped and a test recording
that does not start on the frame after the request; and a concrete run of the model (`maxF = 1`,
`testLast = 1`) produces two-frame continuous files and a two-frame test file -/
example :
    (let c : PCfg := ⟨3, 5, 1, 1, true, 1⟩
     monC17 c [⟨.frame false {}, []⟩] ≠ [] ∧
     monC17 c [⟨.testReq, []⟩,
       ⟨.frame false {}, [.call .const .start true, .call .const (.write 0) true]⟩] ≠ [] ∧
     (PState.trace c (PState.init c) [.frame false {}, .testReq, .frame false {}, .frame false {}]).map
         (·.obs) =
       [[.call .const .start true, .call .const (.write 0) true],
        [],
        [.call .const (.write 1) true, .call .const .stop true,
         .call .test .start true, .call .test (.write 1) true],
        [.call .const .start true, .call .const (.write 2) true,
         .call .test (.write 2) true, .call .test .stop true]]) := by
  decide +kernel

end TR.C17
