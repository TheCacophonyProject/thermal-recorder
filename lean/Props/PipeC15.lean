import Props.PipeC04
import Proofs.PipeC15
/-!
# C15, last clause, at pipeline level: the header of a recording is the detector state at its trigger

"The background and threshold stored with a recording are the ones in force at its trigger" — for the composed
pipeline (`TR.Pipeline`) over whole histories in which the window / disk gates change between items
(`Proofs.PipeLemmas`, `Proofs.PipeSim`, `Proofs.PipeC04`: `GOp`, `Pipe.gop`, `runG F c gs`, `motionStarts`, `parseItem`,
`verdict`).  The trigger of a recording is the frame on which the file is actually opened; start attempts on earlier motion frames may have been
refused because the window was closed or the disk check failed, while the dynamic threshold kept moving.

Notions (definitions in `Proofs.PipeC15`, `Proofs.PipeLemmas`):

* `motionFile? p i` — motion file number `i` of the pipeline state `p`, counted from the oldest
  (`motionFile?_is_recording`: its frame list is entry `i` of `motionFiles p`, i.e. recording `i` of
  `pipe_gates_files_are_recordings`);
* `detAfter c p pix tel` — the detector state right after the accepted frame `(pix, tel)` has been examined in
  pipeline state `p`: `(Det.detect c.det p.det pix (Det.affectedBy c.det …)).1`, exactly the expression
  `Pipe.item` uses (`detAfter_eq`; its second component is `verdict c p pix tel`).

Theorems, for every `FloatOps`, every configuration with ring capacity ≥ 1, every history `gs`:

* `pipe_c15_stored_at_trigger` (throttle off) — for every motion file `f` of the final state `runG F c gs` there
  is a split `gs = pre ++ g :: post` such that `g` is a socket frame the parser accepts as `(pix, tel)`, both gates
  are open at `g`, the number of motion files grows by one at `g`, `f` is the motion file with exactly that number,
  and `f.thresh`, `f.bg`, `f.bgSeeded` are the threshold / background / seeded flag of the detector right after
  `detect` of that frame (`pipe_c15_stored_at_trigger_nth`: the same by file number);
  `pipe_c15_trigger_unique` — the split is unique;
* `pipe_c15_started_file` — forward: a step that raises the number of motion files from `i` to `i + 1` creates
  motion file `i`, which at the end of every continuation still carries the detector state right after that step;
* `pipe_c15_header_stable`, `pipe_files_only_extend` — later steps only append to `frames` / set `closed` of an
  existing file: `kind`, `thresh`, `bg`, `bgSeeded` never change, nor does the file's number (no hypothesis on the
  configuration);
* `pipe_c15_refused_attempt_does_not_leak` — a start due at `g` but refused by a gate, the file started at a later
  `g'`, the detector's threshold after `g` and after `g'` different: the file carries the latter;
* throttle ON with `0 < c.minLenFrames` (ticks all 0, no refill): `pipe_thr_c15_stored_at_trigger`,
  `pipe_thr_c15_started_file` — the same statements; a base file is opened only by the upstream `StartRecording`
  of that very frame, right after `threshOfStart` was copied from the detector.  For `c.minLenFrames = 0` the
  statement is FALSE (counterexample at the end: the restart path of the throttle's `WriteFrame` opens base files
  at later frames with the threshold of the upstream start).

Non-vacuity (by evaluation, on the `Tiny` pipeline with `dynamic := true`): the window is closed during the first two
motion frames while the scene cools and the threshold drops 40 → 39 → 38, then opens: the file carries 37, the
threshold after the frame that started it.
-/
namespace TR.PipeC15
open TR TR.C01Spec TR.PipeC04 TR.PipeLemmas

section general
variable {F : FloatOps}

theorem detAfter_eq (c : PipeCfg) (p : Pipe F) (pix : Frame) (tel : Parse.Telemetry) :
    detAfter c p pix tel = (Det.detect c.det p.det pix
      (Det.affectedBy c.det ((tel.timeOnMs : Int) * 1000000) ((tel.lastFFCMs : Int) * 1000000))).1 ∧
    verdict c p pix tel = (Det.detect c.det p.det pix
      (Det.affectedBy c.det ((tel.timeOnMs : Int) * 1000000) ((tel.lastFFCMs : Int) * 1000000))).2 :=
  ⟨rfl, rfl⟩

/-- an accepted frame leaves exactly `detAfter` in the pipeline (whatever the processor does with the frame) -/
theorem detAfter_is_next_det (c : PipeCfg) (p : Pipe F) (g : GOp) (bytes : List Nat) (pix : Frame)
    (tel : Parse.Telemetry) (hop : g.op = .item (.frame bytes)) (hparse : parseItem c bytes = .ok pix tel) :
    (Pipe.gop c p g).det = detAfter c p pix tel := by
  rw [gop_frame c p g bytes hop, item_ok (withGates c g) p bytes pix tel hparse]
  exact (applyObs_fold_others (withGates c g) _ _).1

/-- motion file number `i` holds recording number `i` -/
theorem motionFile?_is_recording (p : Pipe F) (i : Nat) :
    (motionFiles p)[i]? = (motionFile? p i).map (·.frames) := motionFile?_frames p i

/-- the motion files of a state are `motionFile? p 0`, …, `motionFile? p (motionStarts p - 1)` -/
theorem motionFile?_iff (p : Pipe F) (f : RecFile) :
    (f ∈ p.files ∧ f.kind = .motion) ↔ ∃ i, i < motionStarts p ∧ motionFile? p i = some f :=
  ⟨fun ⟨h, hk⟩ => (mem_motionFile? h hk).imp fun _ hi => ⟨motionFile?_lt hi, hi⟩,
   fun ⟨_, _, hi⟩ => motionFile?_mem hi⟩

/-! ## headers never change -/

/-- **one step only extends the file list**: new files at the head; every old file stays in place with the same
`kind`, `thresh`, `bg`, `bgSeeded`, its old frames a prefix of the new ones, and unchanged once closed (`Ext`,
`PW`, `FileLe` of `Proofs.PipeLemmas`) — for every configuration, throttled or not, and every gates -/
theorem pipe_files_only_extend (c : PipeCfg) (gs more : List GOp) :
    Ext (runG F c gs).files (runG F c (gs ++ more)).files := runG_ext c gs more

/-- **the header of a motion file is never changed by later steps**, and the file keeps its number -/
theorem pipe_c15_header_stable (c : PipeCfg) (gs more : List GOp) (i : Nat) (f₀ : RecFile)
    (h : motionFile? (runG F c gs) i = some f₀) :
    ∃ f, motionFile? (runG F c (gs ++ more)) i = some f ∧
      f.kind = f₀.kind ∧ f.thresh = f₀.thresh ∧ f.bg = f₀.bg ∧ f.bgSeeded = f₀.bgSeeded ∧
      f₀.frames <+: f.frames ∧ (f₀.closed = true → f = f₀) := by
  obtain ⟨f, hf, hle⟩ := motionFile?_ext (runG_ext c gs more) i f₀ h
  obtain ⟨h1, h2, h3, h4⟩ := FileLe.hdr hle
  exact ⟨f, hf, h1, h2, h3, h4, hle.2.2.2.2.1, hle.2.2.2.2.2⟩

/-- **motion file number `i` is started at one step only** -/
theorem pipe_c15_trigger_unique (c : PipeCfg) (pre pre' post post' : List GOp) (g g' : GOp)
    (e : pre ++ g :: post = pre' ++ g' :: post')
    (h1 : motionStarts (Pipe.gop c (runG F c pre) g) = motionStarts (runG F c pre) + 1)
    (h1' : motionStarts (Pipe.gop c (runG F c pre') g') = motionStarts (runG F c pre') + 1)
    (hi : motionStarts (runG F c pre) = motionStarts (runG F c pre')) :
    pre = pre' ∧ g = g' ∧ post = post' :=
  start_step_unique c pre pre' post post' g g' _ e rfl h1 hi.symm (by rw [h1', hi])

end general

/-! ## throttle off -/

section unthrottled
variable {F : FloatOps}

/-- the facts about a step that starts a motion file, throttle off (input of `stored_induct`) -/
theorem unthr_step (c : PipeCfg) (hK : 0 < c.proc.K) (hthr : c.throttle = false) : StepFact F c := by
  intro gs g
  refine ⟨fun hgrow => ?_, unthr_frame_files c hthr (runG F c gs) g⟩
  obtain ⟨hw, hd, bytes, pix, tel, hop, hparse⟩ := pipe_no_start_outside_window c hK hthr gs g hgrow
  have hone := (pipe_at_most_one_start (F := F) c hK hthr gs g).2
  exact ⟨by omega, bytes, pix, tel, hop, hparse, hw, hd⟩

/-- **C15, last clause, by file number** (throttle off): motion file number `i` of the final state was started at
a step `g` of the history — an accepted frame with both gates open at which the number of motion files went from
`i` to `i + 1` — and its stored threshold, background and seeded flag are those of the detector right after
`detect` of that frame. -/
theorem pipe_c15_stored_at_trigger_nth (c : PipeCfg) (hK : 0 < c.proc.K) (hthr : c.throttle = false)
    (gs : List GOp) (i : Nat) (f : RecFile) (hf : motionFile? (runG F c gs) i = some f) :
    ∃ (pre : List GOp) (g : GOp) (post : List GOp) (bytes : List Nat) (pix : Frame) (tel : Parse.Telemetry),
      gs = pre ++ g :: post ∧ g.op = .item (.frame bytes) ∧ parseItem c bytes = .ok pix tel ∧
      g.windowOpen = true ∧ g.diskOk = true ∧
      motionStarts (runG F c pre) = i ∧ motionStarts (Pipe.gop c (runG F c pre) g) = i + 1 ∧
      let d := (Det.detect c.det (runG F c pre).det pix
        (Det.affectedBy c.det ((tel.timeOnMs : Int) * 1000000) ((tel.lastFFCMs : Int) * 1000000))).1
      f.thresh = d.tempThresh ∧ f.bg = d.background c.det ∧ f.bgSeeded = d.bgSeeded :=
  stored_induct c (unthr_step c hK hthr) gs i f hf

/-- **C15, last clause, at pipeline level** (throttle off).  For every history `gs` of gate values / socket items /
test requests and every motion file `f` of the final state there is a split `gs = pre ++ g :: post` such that

* `g` is a socket frame the parser accepts as `(pix, tel)`, with both gates open;
* the file was started at `g`: the number of motion files grows by one at `g`, and `f` is the motion file with
  that number (`motionStarts (runG F c pre)`, counted from the oldest) in the final state;
* writing `d` for the detector state right after that frame has been examined (the expression `Pipe.item` uses),
  `f.thresh = d.tempThresh`, `f.bg = d.background c.det`, `f.bgSeeded = d.bgSeeded`

— whatever happened before `g`: in particular when start attempts on preceding motion frames were refused by a
gate while the dynamic threshold and the background kept moving. -/
theorem pipe_c15_stored_at_trigger (c : PipeCfg) (hK : 0 < c.proc.K) (hthr : c.throttle = false)
    (gs : List GOp) (f : RecFile) (hf : f ∈ (runG F c gs).files) (hk : f.kind = .motion) :
    ∃ (pre : List GOp) (g : GOp) (post : List GOp) (bytes : List Nat) (pix : Frame) (tel : Parse.Telemetry),
      gs = pre ++ g :: post ∧ g.op = .item (.frame bytes) ∧ parseItem c bytes = .ok pix tel ∧
      g.windowOpen = true ∧ g.diskOk = true ∧
      motionStarts (Pipe.gop c (runG F c pre) g) = motionStarts (runG F c pre) + 1 ∧
      motionFile? (runG F c gs) (motionStarts (runG F c pre)) = some f ∧
      let d := (Det.detect c.det (runG F c pre).det pix
        (Det.affectedBy c.det ((tel.timeOnMs : Int) * 1000000) ((tel.lastFFCMs : Int) * 1000000))).1
      f.thresh = d.tempThresh ∧ f.bg = d.background c.det ∧ f.bgSeeded = d.bgSeeded :=
  stored_of_mem (fun i => pipe_c15_stored_at_trigger_nth c hK hthr gs i f) hf hk

/-- **forward direction** (throttle off): if the step `g` after `pre` raises the number of motion files, then in
the final state of every continuation `pre ++ g :: post` the motion file with number `motionStarts (runG F c pre)`
exists and carries the detector state right after `g`'s frame. -/
theorem pipe_c15_started_file (c : PipeCfg) (hK : 0 < c.proc.K) (hthr : c.throttle = false)
    (pre : List GOp) (g : GOp) (post : List GOp) (bytes : List Nat) (pix : Frame) (tel : Parse.Telemetry)
    (hop : g.op = .item (.frame bytes)) (hparse : parseItem c bytes = .ok pix tel)
    (hgrow : motionStarts (Pipe.gop c (runG F c pre) g) > motionStarts (runG F c pre)) :
    ∃ f, motionFile? (runG F c (pre ++ g :: post)) (motionStarts (runG F c pre)) = some f ∧
      f.thresh = (detAfter c (runG F c pre) pix tel).tempThresh ∧
      f.bg = (detAfter c (runG F c pre) pix tel).background c.det ∧
      f.bgSeeded = (detAfter c (runG F c pre) pix tel).bgSeeded :=
  started_induct c (unthr_step c hK hthr) pre g post bytes pix tel hop hparse hgrow

/-- **refused attempts do not leak into the header.**  At step `g` (after `pre`) a start is due — accepted frame,
no recording open, motion, the run of motion frames has reached `trig` — but a gate refuses it; nothing is started
up to the later step `g'` (after `pre ++ g :: mid`), where the file is started.  If the detector's threshold right
after `g`'s frame is `t` and right after `g'`'s frame is `t' ≠ t`, the file carries `t'`, not `t` — and likewise
the background of `g'`, at the end of every continuation `post`. -/
theorem pipe_c15_refused_attempt_does_not_leak (c : PipeCfg) (hK : 0 < c.proc.K) (hthr : c.throttle = false)
    (pre mid post : List GOp) (g g' : GOp) (bytes bytes' : List Nat) (pix pix' : Frame)
    (tel tel' : Parse.Telemetry) (t t' : Nat)
    (hop : g.op = .item (.frame bytes)) (hparse : parseItem c bytes = .ok pix tel)
    (hop' : g'.op = .item (.frame bytes')) (hparse' : parseItem c bytes' = .ok pix' tel') :
    let p := runG F c pre
    let p' := runG F c (pre ++ g :: mid)
    -- a start is due at `g` …
    p.proc.isRec = false → verdict c p pix tel = true → c.proc.trig ≤ p.proc.triggered + 1 →
    -- … but refused by a gate
    (g.windowOpen = false ∨ g.diskOk = false) →
    -- the refused recording is started at the later step `g'`
    motionStarts p' = motionStarts p → motionStarts (Pipe.gop c p' g') = motionStarts p' + 1 →
    -- the dynamic threshold moved in between
    (detAfter c p pix tel).tempThresh = t → (detAfter c p' pix' tel').tempThresh = t' → t ≠ t' →
    motionStarts (Pipe.gop c p g) = motionStarts p ∧
    ∃ f, motionFile? (runG F c (pre ++ g :: mid ++ g' :: post)) (motionStarts p) = some f ∧
      f.thresh = t' ∧ f.thresh ≠ t ∧
      f.bg = (detAfter c p' pix' tel').background c.det ∧ f.bgSeeded = (detAfter c p' pix' tel').bgSeeded := by
  intro p p' _ _ _ hgate hsame hstart ht ht' hne
  -- a step that starts a file has both gates open (`pipe_start_iff`), and the count never falls
  have hno : motionStarts (Pipe.gop c p g) = motionStarts p := by
    refine Nat.le_antisymm (Nat.le_of_not_lt fun hg => ?_) (pipe_at_most_one_start (F := F) c hK hthr pre g).1
    obtain ⟨_, _, _, hw, hd⟩ := (pipe_start_iff (F := F) c hK hthr pre g bytes pix tel hop hparse).mp hg
    rcases hgate with h | h
    · rw [hw] at h; cases h
    · rw [hd] at h; cases h
  obtain ⟨f, hf, h1, h2, h3⟩ := pipe_c15_started_file (F := F) c hK hthr (pre ++ g :: mid) g' post bytes' pix' tel' hop'
    hparse' (Nat.lt_of_lt_of_eq (Nat.lt_succ_self _) hstart.symm)
  have hthresh : f.thresh = t' := h1.trans ht'
  exact ⟨hno, f, by rw [← hsame]; exact hf, hthresh, fun h => hne (h.symm.trans hthresh), h2, h3⟩

end unthrottled

/-! ## throttle on -/

section throttled
variable {F : FloatOps}

/-- the facts about a step that starts a motion file, throttle on with `minLenFrames ≥ 1` -/
theorem thr_step (c : PipeCfg) (hK : 0 < c.proc.K) (hthr : c.throttle = true) (hM : 0 < c.minLenFrames) :
    StepFact F c := by
  intro gs g
  refine ⟨fun hgrow => ?_, thr_frame_files c hK hthr hM (runG F c gs) _ g (PipeSim.sim_runG c hK gs)⟩
  obtain ⟨hw, hd, bytes, pix, tel, hop, hparse, _⟩ := pipe_thr_start_only_if c hK hthr hM gs g hgrow
  have hone := pipe_thr_at_most_one_start (F := F) c hK hthr hM gs g
  exact ⟨by omega, bytes, pix, tel, hop, hparse, hw, hd⟩

/-- **C15, last clause, by file number, throttle ON** (`0 < c.minLenFrames`; the pipeline's throttle runs with all
ticks 0, so its bucket is never refilled): the same statement as `pipe_c15_stored_at_trigger_nth`.  The base file
is opened by the upstream `StartRecording` of the triggering frame itself, with the threshold the throttle copied
from the detector at that call (`Pipe.motionCall`: `threshOfStart`). -/
theorem pipe_thr_c15_stored_at_trigger_nth (c : PipeCfg) (hK : 0 < c.proc.K) (hthr : c.throttle = true)
    (hM : 0 < c.minLenFrames) (gs : List GOp) (i : Nat) (f : RecFile)
    (hf : motionFile? (runG F c gs) i = some f) :
    ∃ (pre : List GOp) (g : GOp) (post : List GOp) (bytes : List Nat) (pix : Frame) (tel : Parse.Telemetry),
      gs = pre ++ g :: post ∧ g.op = .item (.frame bytes) ∧ parseItem c bytes = .ok pix tel ∧
      g.windowOpen = true ∧ g.diskOk = true ∧
      motionStarts (runG F c pre) = i ∧ motionStarts (Pipe.gop c (runG F c pre) g) = i + 1 ∧
      let d := (Det.detect c.det (runG F c pre).det pix
        (Det.affectedBy c.det ((tel.timeOnMs : Int) * 1000000) ((tel.lastFFCMs : Int) * 1000000))).1
      f.thresh = d.tempThresh ∧ f.bg = d.background c.det ∧ f.bgSeeded = d.bgSeeded :=
  stored_induct c (thr_step c hK hthr hM) gs i f hf

/-- **C15, last clause, at pipeline level, throttle ON** (`0 < c.minLenFrames`) -/
theorem pipe_thr_c15_stored_at_trigger (c : PipeCfg) (hK : 0 < c.proc.K) (hthr : c.throttle = true)
    (hM : 0 < c.minLenFrames) (gs : List GOp) (f : RecFile) (hf : f ∈ (runG F c gs).files)
    (hk : f.kind = .motion) :
    ∃ (pre : List GOp) (g : GOp) (post : List GOp) (bytes : List Nat) (pix : Frame) (tel : Parse.Telemetry),
      gs = pre ++ g :: post ∧ g.op = .item (.frame bytes) ∧ parseItem c bytes = .ok pix tel ∧
      g.windowOpen = true ∧ g.diskOk = true ∧
      motionStarts (Pipe.gop c (runG F c pre) g) = motionStarts (runG F c pre) + 1 ∧
      motionFile? (runG F c gs) (motionStarts (runG F c pre)) = some f ∧
      let d := (Det.detect c.det (runG F c pre).det pix
        (Det.affectedBy c.det ((tel.timeOnMs : Int) * 1000000) ((tel.lastFFCMs : Int) * 1000000))).1
      f.thresh = d.tempThresh ∧ f.bg = d.background c.det ∧ f.bgSeeded = d.bgSeeded :=
  stored_of_mem (fun i => pipe_thr_c15_stored_at_trigger_nth c hK hthr hM gs i f) hf hk

/-- forward direction, throttle ON (`0 < c.minLenFrames`) -/
theorem pipe_thr_c15_started_file (c : PipeCfg) (hK : 0 < c.proc.K) (hthr : c.throttle = true)
    (hM : 0 < c.minLenFrames) (pre : List GOp) (g : GOp) (post : List GOp) (bytes : List Nat) (pix : Frame)
    (tel : Parse.Telemetry) (hop : g.op = .item (.frame bytes)) (hparse : parseItem c bytes = .ok pix tel)
    (hgrow : motionStarts (Pipe.gop c (runG F c pre) g) > motionStarts (runG F c pre)) :
    ∃ f, motionFile? (runG F c (pre ++ g :: post)) (motionStarts (runG F c pre)) = some f ∧
      f.thresh = (detAfter c (runG F c pre) pix tel).tempThresh ∧
      f.bg = (detAfter c (runG F c pre) pix tel).background c.det ∧
      f.bgSeeded = (detAfter c (runG F c pre) pix tel).bgSeeded :=
  started_induct c (thr_step c hK hthr hM) pre g post bytes pix tel hop hparse hgrow

end throttled

/-! ## non-vacuity -/

section examples
open TR.PipeLemmas.Tiny

/-- the `Tiny` pipeline of `Proofs.PipeLemmas` with the DYNAMIC threshold switched on.  With the integer stand-ins `F0`
for the floats (`add` sums, `trunc` is the identity, no bounds configured) the threshold is the sum of the four
background pixels; a background pixel follows the scene downwards. -/
def cD : PipeCfg := { c0 with det := { c0.det with dynamic := true } }

/-- a 2×2 Boson frame: pixel (0,0) = `a` (toggling 10 / 100: motion), pixel (1,1) = `b` (the scene cools) -/
private def fr (a b : Nat) : List Nat := [a, 0, 10, 0, 10, 0, b, 0]

private def st (window : Bool) (bytes : List Nat) : GOp := ⟨window, true, .item (.frame bytes)⟩

/-- window open for the first frame, closed for the next two — both show motion, the threshold drops from 40 to
39 and 38 —, open again for the fourth (threshold 37) -/
private def hist : List GOp :=
  [st true (fr 10 10), st false (fr 100 9), st false (fr 10 8), st true (fr 100 7), st true (fr 10 7)]

/-- the accepted pixels / telemetry of a frame (the parser accepts all frames of `hist`) -/
private def pixOf (bytes : List Nat) : Frame :=
  match parseItem cD bytes with
  | .ok pix _ => pix
  | .bad _ _ => fun _ _ => 0

private def telOf (bytes : List Nat) : Parse.Telemetry :=
  match parseItem cD bytes with
  | .ok _ tel => tel
  | .bad _ _ => Parse.bosonTelemetry

example : cD.det.dynamic = true ∧ cD.throttle = false ∧ 0 < cD.proc.K := by decide +kernel

/-- the induced events: (accepted frame?, motion?, window) — starts are due at steps 1 and 2 and refused -/
example : (evsG F0 cD hist).map (fun e => (e.isFrame, e.motion, e.faults.win)) =
    [(true, false, true), (true, true, false), (true, true, false), (true, true, true), (true, true, true)] := by
  decide +kernel

set_option maxRecDepth 40000 in
/-- the detector's threshold after 0, 1, …, 5 steps, and the number of motion files: the file starts at step 3 -/
example :
    (List.range 6).map (fun i => (runG F0 cD (hist.take i)).det.tempThresh) = [10, 40, 39, 38, 37, 37] ∧
    (List.range 6).map (fun i => motionStarts (runG F0 cD (hist.take i))) = [0, 0, 0, 0, 1, 1] := by decide +kernel

set_option maxRecDepth 40000 in
/-- **the file carries 37** — the threshold after the frame that started it (step 3) —, not 39 or 38, the
thresholds after the refused attempts (steps 1, 2); its background pixel (1,1) is 7, the one of step 3; and it
begins with the pre-trigger frames 1 and 2 -/
example :
    (runG F0 cD hist).files.map (fun f => (f.thresh, f.bg 1 1, f.bg 0 0, f.bgSeeded)) = [(37, 7, 10, true)] ∧
    (runG F0 cD hist).files.map (fun f => (f.kind, f.frames)) = [(.motion, [1, 2, 3, 4])] := by decide +kernel

set_option maxRecDepth 40000 in
/-- the hypotheses of `pipe_c15_refused_attempt_does_not_leak` are satisfiable with `t = 39 ≠ 37 = t'`: the
refused attempt is step 1, the file starts at step 3 -/
example : ∃ f, motionFile? (runG F0 cD hist) 0 = some f ∧ f.thresh = 37 ∧ f.thresh ≠ 39 := by
  have hp : parseItem cD (fr 100 9) = .ok (pixOf (fr 100 9)) (telOf (fr 100 9)) := rfl
  have hp' : parseItem cD (fr 100 7) = .ok (pixOf (fr 100 7)) (telOf (fr 100 7)) := rfl
  obtain ⟨_, f, hf, h1, h2, _⟩ := pipe_c15_refused_attempt_does_not_leak (F := F0) cD (by decide) rfl
    [st true (fr 10 10)] [st false (fr 10 8)] [st true (fr 10 7)] (st false (fr 100 9)) (st true (fr 100 7))
    (fr 100 9) (fr 100 7) _ _ _ _ 39 37 rfl hp rfl hp'
    (by decide +kernel) (by decide +kernel) (by decide +kernel) (Or.inl rfl) (by decide +kernel) (by decide +kernel)
    (by decide +kernel) (by decide +kernel) (by decide)
  exact ⟨f, hf, h1, h2⟩

/-- the throttled variant of the configuration: a 10-frame bucket, `minLenFrames = 1` -/
def cDT : PipeCfg := { cD with throttle := true }

set_option maxRecDepth 40000 in
/-- the same history through the throttle: the base file carries 37 as well -/
example : cDT.throttle = true ∧ 0 < cDT.minLenFrames ∧
    (runG F0 cDT hist).files.map (fun f => (f.kind, f.thresh, f.bg 1 1, f.frames)) =
      [(.motion, 37, 7, [1, 2, 3, 4])] := by decide +kernel

set_option maxRecDepth 40000 in
/-- **the throttled statement is FALSE for `minLenFrames = 0`.**  Two-frame bucket: the recording starts at step 1
(threshold 39, stored by the throttle in `threshOfStart`), the bucket is empty after the two pre-trigger frames and
the throttle cuts the file at step 2; the processor keeps recording, and at steps 3 and 4 the restart path of the
throttle's `WriteFrame` opens (and at once cuts) a base file — with the threshold of the upstream start, 39, while
the detector's threshold right after those frames is 37 and 36; the background stored is the current one (pixel
(1,1) = 7, 6).  `throttle/throttled_recorder.go` does the same: `tempThresh` is a copy taken at the upstream
`StartRecording`, `backgroundFrame` a pointer to the detector's frame. -/
example :
    let cZ : PipeCfg := { cD with throttle := true, bucketFrames := 2, minLenFrames := 0 }
    let h : List GOp := [st true (fr 10 10), st true (fr 100 9), st true (fr 10 8), st true (fr 100 7),
      st true (fr 10 6)]
    (List.range 6).map (fun i => (runG F0 cZ (h.take i)).det.tempThresh) = [10, 40, 39, 38, 37, 36] ∧
    (List.range 6).map (fun i => motionStarts (runG F0 cZ (h.take i))) = [0, 0, 1, 1, 2, 3] ∧
    (runG F0 cZ h).files.map (fun f => (f.thresh, f.bg 1 1, f.frames)) =
      [(39, 6, []), (39, 7, []), (39, 9, [0, 1])] := by decide +kernel

end examples

end TR.PipeC15
