import Props.C12Spec
import Props.C10Gen
import Proofs.C10Pipe
import Proofs.ProcFaults
/-!
# C10 for every frame history — the file-system operations the daemon performs ARE a `ValidOps` sequence

`Props.C10` / `Props.C10Gen` prove C10 (only complete recordings ever carry a `.cptv` name, at every crash point;
clean-up leaves complete recordings only) for operation sequences that OBEY the recorder protocol
(`TR.C10.ValidOps`).  `Props.C12Spec` proves that the frame processor drives each of its three recording sinks
`WellFormed`ly, for every event list and every fault placement.  This file connects the two.

**The translation.**  Each of the three sinks is a `CPTVFileRecorder`.  `fsOps` folds over the observations of a
connection and emits the recorder operation (`TR.FS.Op`) each call causes, keeping in `Tr` the id of the open file of
each sink and the next fresh id (`obsOps`, clause by clause, below).  `endOps` is `handleConn`'s deferred
`cptvRecorder.Stop()`.  `leaves : Nat → Bool` decides, for each start attempt (numbered by the id it would use),
whether a FAILING `StartRecording` leaves a temporary file behind (`Op.startFail`: the header could not be written)
or not (no operation: `NewFileWriter` / `deleteExcessRecordings` failed) — all theorems hold for every `leaves`.

**What is proved.**

* `ops_valid_any` — the translated operations of ANY observation list are `ValidOps` (from any id counter `n`, any
  `opn`, any `used` below `n`).  This needs neither C12 nor any hypothesis on faults: `fsOps` is total and its
  "cannot happen" clauses (a write / a failing stop with no open file: no operation; a start while a file is open: the
  old file is abandoned) are harmless for `ValidOps`.
* `Exact` / `pipe_exact` — where C12 comes in: on the model's traces (ring capacity ≥ 1, every stop succeeds) the
  translation never takes one of those clauses — every `WriteFrame` finds the open file of its sink (so it IS an
  `Op.write`, and the Go code does not dereference a nil writer), every `StartRecording` finds its sink closed (no
  writer is leaked), and no `StopRecording` fails while a file is open (the one thing `TR.FS` has no operation for).
  So the translated list is exactly what the daemon does to the directory.
* `stopsSucceed_of_faults` — the hypothesis `StopsSucceed` on the trace follows from a condition on the input: no
  event's fault record dictates a failing stop.
* `pipe_ops_valid`, `pipe_ops_valid_from`, `pipe_c10_every_instant`, `pipe_c10_cleanup` — both together, and C10 for
  one connection.
* `pipe_c10_connections` — several connections in one daemon life (a fresh processor each, ids continuing, files of
  the test / continuous recorder abandoned at the end of a connection stay open for ever).
* `pipe_lives_valid`, `pipe_c10_lives` — a whole history of lives, each a list of connections, each killed at an
  arbitrary system call, restarted and cleaned up (`Props.C10Gen`).

Helper lemmas: `Proofs.C10Pipe` (the invariant `Inv`, `Block`, `wellFormed_mid`).
-/
namespace TR.C10Pipe
open TR TR.FS TR.C10 TR.C10Gen TR.C12Spec

/-! ## Definitions -/

/-- translation state: the id of the open file of each sink (if any) and the next fresh id -/
structure Tr where
  motion : Option Nat := none
  const : Option Nat := none
  test : Option Nat := none
  next : Nat := 0
  deriving DecidableEq, Repr

def Tr.get (t : Tr) : Sink → Option Nat
  | .motion => t.motion
  | .const => t.const
  | .test => t.test

def Tr.set (t : Tr) (s : Sink) (v : Option Nat) : Tr :=
  match s with
  | .motion => { t with motion := v }
  | .const => { t with const := v }
  | .test => { t with test := v }

/-- the file-system operation(s) one observation causes (`CPTVFileRecorder`):
* `StartRecording` that succeeds → `Op.start` of a fresh id, which becomes the sink's open file (had the sink an open
  file already, the Go code would overwrite `fw.writer`: the old file is abandoned — excluded by `Exact`);
* `StartRecording` that fails → a fresh id is used up; `Op.startFail` if `leaves` says a file was left, else nothing;
* `WriteFrame` (whatever its outcome) → `Op.write` of the sink's open id (with none open the Go code would panic on the
  nil writer — excluded by `Exact`);
* `StopRecording` that succeeds → `Op.stop` of the open id (nothing if none is open: `fw.writer == nil`);
  the sink then has no open file;
* `StopRecording` that fails → the sink has no open file any more (`fw.writer = nil`); the system calls it made
  (close, failed rename) have NO counterpart in `TR.FS` — excluded by `StopsSucceed` / `Exact`;
* `CheckCanRecord`, listener observations, `panic` → nothing. -/
def obsOps (leaves : Nat → Bool) (t : Tr) : Obs → Tr × List Op
  | .call s .start true => ({ t.set s (some t.next) with next := t.next + 1 }, [.start t.next])
  | .call _ .start false => ({ t with next := t.next + 1 }, if leaves t.next then [.startFail t.next] else [])
  | .call s (.write _) _ => (t, match t.get s with | some i => [.write i] | none => [])
  | .call s .stop true => (t.set s none, match t.get s with | some i => [.stop i] | none => [])
  | .call s .stop false => (t.set s none, [])
  | _ => (t, [])

/-- the operations of an observation list, and the translation state after it -/
def fsOps (leaves : Nat → Bool) : Tr → List Obs → Tr × List Op
  | t, [] => (t, [])
  | t, o :: os =>
    let r := obsOps leaves t o
    let r' := fsOps leaves r.1 os
    (r'.1, r.2 ++ r'.2)

/-- what `handleConn`'s deferred `cptvRecorder.Stop()` does when the connection ends: the MOTION recorder's open file
(if any) is discarded; open files of the test and continuous recorders are simply abandoned (they stay as temporary
files until the next start-up clean-up) -/
def endOps (t : Tr) : List Op :=
  match t.motion with
  | some i => [.discard i]
  | none => []

/-- every `StopRecording` succeeds (on every sink) -/
def StopsSucceed (os : List Obs) : Prop := ∀ s, Obs.call s .stop false ∉ os

/-- the faults dictated during this event let every `StopRecording` succeed (`.testReq` dictates none) -/
def StopFaultFree (e : Ev) : Prop := e.faults.mStop = true ∧ e.faults.cStop = true ∧ e.faults.tStop = true

/-- the translation state `t` (reached by translating what came before) is the one the observation expects: a start
attempt finds its sink closed, a write finds it open, a FAILING stop finds it closed (then it did nothing) -/
def exactAt (t : Tr) : Obs → Bool
  | .call s .start _ => (t.get s).isNone
  | .call s (.write _) _ => (t.get s).isSome
  | .call s .stop false => (t.get s).isNone
  | _ => true

/-- the translation of `os` from `t0` is exact: at every position -/
def Exact (leaves : Nat → Bool) (t0 : Tr) (os : List Obs) : Prop :=
  ∀ pre o post, os = pre ++ o :: post → exactAt (fsOps leaves t0 pre).1 o = true

/-- all observations of one camera connection: a fresh processor fed the events `evs` -/
def obsOf (c : PCfg) (evs : List Ev) : List Obs := allObs (PState.trace c (PState.init c) evs)

/-- several connections in one daemon life, ids from `n` on: each connection (its configuration and its events) is
processed by a fresh processor with fresh recorders and ended by `endOps`; returns the next fresh id -/
def connsOps (leaves : Nat → Bool) : Nat → List (PCfg × List Ev) → Nat × List Op
  | n, [] => (n, [])
  | n, p :: ps =>
    let r := fsOps leaves { next := n } (obsOf p.1 p.2)
    let r' := connsOps leaves r.1.next ps
    (r'.1, r.2 ++ endOps r.1 ++ r'.2)

/-- one life of the daemon: its connections, and the number of system calls it gets to make before it is killed
(anything ≥ the total: it is killed after the last one) -/
structure DLife where
  conns : List (PCfg × List Ev)
  kill : Nat

/-- the lives (`Props.C10Gen.Life`) of a history, ids from `n` on (time stamps move on across restarts) -/
def livesOf (leaves : Nat → Bool) : Nat → List DLife → List Life
  | _, [] => []
  | n, l :: ls =>
    let r := connsOps leaves n l.conns
    ⟨r.2, (r.2.flatMap Op.steps).take l.kill⟩ :: livesOf leaves r.1 ls

/-! ## Machinery -/

theorem Tr.get_set (t : Tr) (s s' : Sink) (v : Option Nat) :
    (t.set s v).get s' = if s = s' then v else t.get s' := by
  cases s <;> cases s' <;> rfl

theorem Tr.set_next (t : Tr) (s : Sink) (v : Option Nat) : (t.set s v).next = t.next := by
  cases s <;> rfl

theorem Tr.get_next (t : Tr) (m : Nat) (s : Sink) : ({ t with next := m } : Tr).get s = t.get s := by
  cases s <;> rfl

/-- a fresh connection: no sink has an open file -/
theorem Tr.inv_init {n : Nat} {opn used : List Nat} (hu : ∀ x ∈ used, x < n) :
    Inv ({ next := n } : Tr).get ({ next := n } : Tr).next opn used :=
  Inv.init (fun s => by cases s <;> rfl) hu

/-- one observation: valid from `(opn, used)`, and the continuation `rest` is entered with the invariant -/
theorem obsOps_valid_then (leaves : Nat → Bool) (t : Tr) (opn used : List Nat)
    (hi : Inv t.get t.next opn used) (rest : List Op) : ∀ o : Obs,
    (∀ opn' used', Inv (obsOps leaves t o).1.get (obsOps leaves t o).1.next opn' used' →
      ValidOps opn' used' rest) →
    ValidOps opn used ((obsOps leaves t o).2 ++ rest)
  | .call s .start true, k =>
    .start hi.fresh (k _ _ (hi.start (s := s) fun _ => (Tr.get_next ..).trans (Tr.get_set ..)))
  | .call _ .start false, k => by
    show ValidOps opn used ((if leaves t.next then [Op.startFail t.next] else []) ++ rest)
    split
    · exact .startFail hi.fresh (k _ _ (hi.startFail fun _ => Tr.get_next ..))
    · exact k _ _ (hi.skip fun _ => Tr.get_next ..)
  | .call s (.write _) _, k => by
    show ValidOps opn used ((match t.get s with | some i => [Op.write i] | none => []) ++ rest)
    split
    · next i hg => exact .write (hi.mem s i hg) (k _ _ hi)
    · exact k _ _ hi
  | .call s .stop true, k => by
    show ValidOps opn used ((match t.get s with | some i => [Op.stop i] | none => []) ++ rest)
    split
    · next i hg => exact .stop (hi.mem s i hg) (k _ _ (Tr.set_next t s none ▸ hi.stop hg fun _ => Tr.get_set ..))
    · exact k _ _ (Tr.set_next t s none ▸ hi.clear fun _ => Tr.get_set ..)
  | .call s .stop false, k => k _ _ (Tr.set_next t s none ▸ hi.clear fun _ => Tr.get_set ..)
  | .call _ .can _, k | .md, k | .rs, k | .re, k | .panic, k => k _ _ hi

/-- **the core induction**: the operations of ANY observation list are valid from `(opn, used)` whenever the
invariant holds at the start, and whatever is valid from every state the invariant allows at the end (`tail`: nothing,
`endOps`, the next connection …) may follow -/
theorem fsOps_valid_then (leaves : Nat → Bool) : ∀ (os : List Obs) (t : Tr) (opn used : List Nat),
    Inv t.get t.next opn used → ∀ tail : List Op,
    (∀ opn' used', Inv (fsOps leaves t os).1.get (fsOps leaves t os).1.next opn' used' →
      ValidOps opn' used' tail) →
    ValidOps opn used ((fsOps leaves t os).2 ++ tail) := by
  intro os
  induction os with
  | nil => intro t opn used hi tail k; exact k opn used hi
  | cons o os ih =>
    intro t opn used hi tail k
    show ValidOps opn used (((obsOps leaves t o).2 ++ (fsOps leaves (obsOps leaves t o).1 os).2) ++ tail)
    rw [List.append_assoc]
    exact obsOps_valid_then leaves t opn used hi _ o fun opn' used' hi' => ih _ opn' used' hi' tail k

/-- what may follow a connection: `endOps` -/
theorem endOps_valid {t : Tr} {opn used : List Nat} (hi : Inv t.get t.next opn used) {rest : List Op}
    (k : ∀ opn', ValidOps opn' used rest) : ValidOps opn used (endOps t ++ rest) := by
  unfold endOps
  cases hm : t.motion with
  | none => exact k _
  | some i => exact .discard (hi.mem .motion i hm) (k _)

/-! ### ids -/

theorem startedIds_append (a b : List Op) : startedIds (a ++ b) = startedIds a ++ startedIds b := by
  induction a with
  | nil => rfl
  | cons o a ih => cases o <;> simp [startedIds, ih]

theorem startedIds_endOps (t : Tr) : startedIds (endOps t) = [] := by
  unfold endOps
  cases t.motion <;> rfl

/-- only a start attempt uses an id: the counter's, which it then moves on -/
theorem obsOps_ids (leaves : Nat → Bool) (t : Tr) : ∀ o : Obs,
    t.next ≤ (obsOps leaves t o).1.next ∧
      ∀ x ∈ startedIds (obsOps leaves t o).2, t.next ≤ x ∧ x < (obsOps leaves t o).1.next := by
  have one : ∀ x ∈ [t.next], t.next ≤ x ∧ x < t.next + 1 := fun x hx => by
    cases List.mem_singleton.mp hx; exact ⟨Nat.le_refl _, Nat.lt_succ_self _⟩
  have closed : ∀ s, t.next ≤ (t.set s none).next ∧ ∀ x ∈ ([] : List Nat), t.next ≤ x ∧ x < (t.set s none).next :=
    fun s => ⟨Nat.le_of_eq (Tr.set_next ..).symm, fun _ hx => nomatch hx⟩
  intro o
  match o with
  | .call _ .start true => exact ⟨Nat.le_succ _, one⟩
  | .call _ .start false =>
    refine ⟨Nat.le_succ _, fun x (hx : x ∈ startedIds (if leaves t.next then [Op.startFail t.next] else [])) => ?_⟩
    split at hx
    · exact one x hx
    · cases hx
  | .call s (.write _) _ =>
    refine ⟨Nat.le_refl _, fun x (hx : x ∈ startedIds (match t.get s with | some i => [Op.write i] | none => [])) => ?_⟩
    split at hx <;> cases hx
  | .call s .stop true =>
    refine ⟨(closed s).1, fun x (hx : x ∈ startedIds (match t.get s with | some i => [Op.stop i] | none => [])) => ?_⟩
    split at hx <;> cases hx
  | .call s .stop false => exact closed s
  | .call _ .can _ | .md | .rs | .re | .panic => exact ⟨Nat.le_refl _, fun _ hx => nomatch hx⟩

theorem fsOps_ids (leaves : Nat → Bool) : ∀ (os : List Obs) (t : Tr),
    t.next ≤ (fsOps leaves t os).1.next ∧
      ∀ x ∈ startedIds (fsOps leaves t os).2, t.next ≤ x ∧ x < (fsOps leaves t os).1.next := by
  intro os
  induction os with
  | nil => intro t; exact ⟨Nat.le_refl _, fun x hx => nomatch hx⟩
  | cons o os ih =>
    intro t
    obtain ⟨h1, h1'⟩ := obsOps_ids leaves t o
    obtain ⟨h2, h2'⟩ := ih (obsOps leaves t o).1
    refine ⟨Nat.le_trans h1 h2,
      fun x (hx : x ∈ startedIds ((obsOps leaves t o).2 ++ (fsOps leaves (obsOps leaves t o).1 os).2)) => ?_⟩
    rw [startedIds_append] at hx
    rcases List.mem_append.mp hx with hx | hx
    · exact ⟨(h1' x hx).1, Nat.lt_of_lt_of_le (h1' x hx).2 h2⟩
    · exact ⟨Nat.le_trans h1 (h2' x hx).1, (h2' x hx).2⟩

/-! ### the translation state follows `openAfter` -/

/-- which sinks have an open file moves with an observation as the flags of the C12 monitor do -/
theorem obsOps_flags (leaves : Nat → Bool) (t : Tr) (o : Obs) :
    (fun s => ((obsOps leaves t o).1.get s).isSome) = nextFlags (fun s => (t.get s).isSome) o := by
  have same : ∀ s s' : Sink, (t.get s').isSome = if s = s' then (t.get s).isSome else (t.get s').isSome :=
    fun s s' => (ite_eq_right_iff.mpr fun h => h ▸ rfl).symm
  funext s'
  match o with
  | .call s .start true =>
    show (({ t.set s (some t.next) with next := t.next + 1 } : Tr).get s').isSome = if s = s' then true else _
    rw [Tr.get_next, Tr.get_set]; split <;> rfl
  | .call s .start false => exact (congrArg _ (Tr.get_next ..)).trans (same s s')
  | .call s (.write _) _ => exact same s s'
  | .call s .stop true | .call s .stop false =>
    show ((t.set s none).get s').isSome = if s = s' then false else _
    rw [Tr.get_set]; split <;> rfl
  | .call s .can _ => exact same s s'
  | .md | .rs | .re | .panic => rfl

theorem fsOps_flags (leaves : Nat → Bool) : ∀ (os : List Obs) (t : Tr),
    (fun s => ((fsOps leaves t os).1.get s).isSome) = os.foldl nextFlags fun s => (t.get s).isSome := by
  intro os
  induction os with
  | nil => intro t; rfl
  | cons o os ih => intro t; exact (ih _).trans (congrArg (os.foldl nextFlags) (obsOps_flags leaves t o))

/-! ### connections and lives -/

/-- one connection (its observations `os`, whatever produced them; ids from `n` on; ended by `endOps`) followed by
a block `rest` -/
theorem conn_then (leaves : Nat → Bool) (os : List Obs) (n : Nat) {m : Nat} {rest : List Op}
    (h : Block (fsOps leaves { next := n } os).1.next m rest) :
    Block n m ((fsOps leaves { next := n } os).2 ++ endOps (fsOps leaves { next := n } os).1 ++ rest) := by
  obtain ⟨h1, h1'⟩ := fsOps_ids leaves os { next := n }
  refine ⟨fun opn used hu => ?_, Nat.le_trans h1 h.le, fun x hx => ?_⟩
  · rw [List.append_assoc]
    exact fsOps_valid_then leaves _ _ opn used (Tr.inv_init hu) _
      fun opn' used' hi' => endOps_valid hi' fun opn'' => h.valid opn'' used' hi'.used
  · rw [startedIds_append, startedIds_append, startedIds_endOps, List.append_nil] at hx
    rcases List.mem_append.mp hx with hx | hx
    · exact ⟨(h1' x hx).1, Nat.lt_of_lt_of_le (h1' x hx).2 h.le⟩
    · exact ⟨Nat.le_trans h1 (h.ids x hx).1, (h.ids x hx).2⟩

/-- the connections of one life -/
theorem connsOps_spec (leaves : Nat → Bool) : ∀ (conns : List (PCfg × List Ev)) (n : Nat),
    Block n (connsOps leaves n conns).1 (connsOps leaves n conns).2 := by
  intro conns
  induction conns with
  | nil => exact Block.nil
  | cons p ps ih => intro n; exact conn_then leaves (obsOf p.1 p.2) n (ih _)

/-- one life (killed after `kill` system calls) followed by lives that are valid after every `used` below `m` -/
theorem life_then {ops : List Op} {n m : Nat} (h : Block n m ops) (kill : Nat) {used : List Nat}
    (hu : ∀ x ∈ used, x < n) {rest : List Life} (hrest : ∀ used', (∀ x ∈ used', x < m) → ValidLives used' rest) :
    ValidLives used (⟨ops, (ops.flatMap Op.steps).take kill⟩ :: rest) := by
  refine .cons (h.valid [] used hu) (List.take_prefix _ _) (hrest _ fun x hx => ?_)
  rcases List.mem_append.mp hx with hx | hx
  · exact (h.ids x hx).2
  · exact Nat.lt_of_lt_of_le (hu x hx) h.le

/-! ## The theorems -/

/-- **the translated operations of ANY observation list obey the recorder protocol** — from any id counter `n`, with
any recordings `opn` open (abandoned by earlier connections) and any ids `used` below `n`; both with the connection
ended (`endOps`) and still running.  No hypothesis: see `pipe_exact` for what C12 adds. -/
theorem ops_valid_any (leaves : Nat → Bool) (os : List Obs) (n : Nat) (opn used : List Nat)
    (hused : ∀ x ∈ used, x < n) :
    ValidOps opn used ((fsOps leaves { next := n } os).2 ++ endOps (fsOps leaves { next := n } os).1) ∧
    ValidOps opn used (fsOps leaves { next := n } os).2 := by
  constructor
  · have := (conn_then leaves os n (Block.nil _)).valid opn used hused
    rwa [List.append_nil] at this
  · have := fsOps_valid_then leaves os _ opn used (Tr.inv_init hused) [] fun _ _ _ => .nil
    rwa [List.append_nil] at this

/-- ids: the translation hands out ids from its counter on, and every id it starts is below the counter it ends
with -/
theorem ops_ids (leaves : Nat → Bool) (os : List Obs) (n : Nat) :
    n ≤ (fsOps leaves { next := n } os).1.next ∧
    ∀ x ∈ startedIds (fsOps leaves { next := n } os).2, n ≤ x ∧ x < (fsOps leaves { next := n } os).1.next :=
  fsOps_ids leaves os { next := n }

/-- the translation state follows C12's `openAfter`: a sink has an open file after `os` iff a recording is open on it
after the calls of `os` (from a fresh connection) -/
theorem fsOps_open_iff (leaves : Nat → Bool) (os : List Obs) (n : Nat) (s : Sink) :
    ((fsOps leaves { next := n } os).1.get s).isSome = openAfter (callsOf s os) := by
  rw [congrFun (fsOps_flags leaves os _) s, flags_callsOf]
  cases s <;> rfl

/-- on well-formed call sequences without failing stops the translation is exact -/
theorem exact_of_wellFormed (leaves : Nat → Bool) (os : List Obs) (n : Nat)
    (hw : ∀ s, WellFormed (callsOf s os)) (hs : StopsSucceed os) : Exact leaves { next := n } os := by
  intro pre o post he
  match o, he with
  | .call s .start _, he =>
    show ((fsOps leaves { next := n } pre).1.get s).isNone = true
    rw [← Option.not_isSome, fsOps_open_iff]
    exact wellFormed_mid (hw s) he
  | .call s (.write _) _, he => exact (fsOps_open_iff ..).trans (wellFormed_mid (hw s) he)
  | .call s .stop false, he => exact absurd (he ▸ List.mem_append_right _ (List.mem_cons_self ..)) (hs s)
  | .call _ .stop true, _ | .call _ .can _, _ | .md, _ | .rs, _ | .re, _ | .panic, _ => rfl

/-- `StopsSucceed`, as a condition on the INPUT: it holds when no event dictates a failing stop -/
theorem stopsSucceed_of_faults (c : PCfg) (evs : List Ev) (h : ∀ e ∈ evs, StopFaultFree e) :
    StopsSucceed (obsOf c evs) := by
  intro snk hmem
  obtain ⟨st, hst, ho⟩ := List.mem_flatMap.1 hmem
  obtain ⟨hev, s', hs'⟩ := mem_trace c evs _ st hst
  have hf := step_fail_dictated c s' st.ev snk .stop (hs' ▸ ho)
  obtain ⟨h1, h2, h3⟩ := h _ hev
  cases snk
  · exact Bool.noConfusion (h1.symm.trans hf)
  · exact Bool.noConfusion (h2.symm.trans hf)
  · exact Bool.noConfusion (h3.symm.trans hf)

/-- **where C12 is used**: on every trace of the model (ring capacity ≥ 1, any events, any fault placement in which
the stops succeed), from any id counter, the translation is exact: every write becomes an `Op.write` of its sink's
open file, every start attempt finds its sink closed, no stop fails on an open file -/
theorem pipe_exact (leaves : Nat → Bool) (c : PCfg) (hK : 0 < c.K) (evs : List Ev)
    (hstop : StopsSucceed (obsOf c evs)) (n : Nat) : Exact leaves { next := n } (obsOf c evs) :=
  exact_of_wellFormed leaves _ n (c12_wellformed c hK evs).2 hstop

/-- **(1)** the file-system operations the daemon performs while processing any event list — exactly those
(`Exact`) — obey the recorder protocol, with the connection ended and with the connection still running -/
theorem pipe_ops_valid (leaves : Nat → Bool) (c : PCfg) (hK : 0 < c.K) (evs : List Ev)
    (hstop : StopsSucceed (obsOf c evs)) :
    Exact leaves {} (obsOf c evs) ∧
    ValidOps [] [] ((fsOps leaves {} (obsOf c evs)).2 ++ endOps (fsOps leaves {} (obsOf c evs)).1) ∧
    ValidOps [] [] (fsOps leaves {} (obsOf c evs)).2 :=
  ⟨pipe_exact leaves c hK evs hstop 0, ops_valid_any leaves _ 0 [] [] (fun _ h => by cases h)⟩

/-- **(1), from any id counter**: ids are ≥ `n`, and the operations are valid after any `used` below `n` -/
theorem pipe_ops_valid_from (leaves : Nat → Bool) (c : PCfg) (hK : 0 < c.K) (evs : List Ev)
    (hstop : StopsSucceed (obsOf c evs)) (n : Nat) (used : List Nat) (hused : ∀ x ∈ used, x < n) :
    Exact leaves { next := n } (obsOf c evs) ∧
    ValidOps [] used ((fsOps leaves { next := n } (obsOf c evs)).2 ++
      endOps (fsOps leaves { next := n } (obsOf c evs)).1) ∧
    ValidOps [] used (fsOps leaves { next := n } (obsOf c evs)).2 ∧
    ∀ x ∈ startedIds (fsOps leaves { next := n } (obsOf c evs)).2,
      n ≤ x ∧ x < (fsOps leaves { next := n } (obsOf c evs)).1.next :=
  ⟨pipe_exact leaves c hK evs hstop n, (ops_valid_any leaves _ n [] used hused).1,
   (ops_valid_any leaves _ n [] used hused).2, (ops_ids leaves _ n).2⟩

/-- **(2)** at every instant (= after every prefix of the system calls) of a connection, including its end, every
`.cptv` name is a complete recording never written in place -/
theorem pipe_c10_every_instant (leaves : Nat → Bool) (c : PCfg) (hK : 0 < c.K) (evs : List Ev)
    (hstop : StopsSucceed (obsOf c evs)) (pre : List Sys)
    (hp : pre <+: ((fsOps leaves {} (obsOf c evs)).2 ++ endOps (fsOps leaves {} (obsOf c evs)).1).flatMap Op.steps) :
    (Dir.run {} pre).ok = true :=
  c10_every_crash_point_ok _ (pipe_ops_valid leaves c hK evs hstop).2.1 pre hp

/-- **(2')** and start-up clean-up of the state at that instant leaves complete recordings only -/
theorem pipe_c10_cleanup (leaves : Nat → Bool) (c : PCfg) (hK : 0 < c.K) (evs : List Ev)
    (hstop : StopsSucceed (obsOf c evs)) (pre : List Sys)
    (hp : pre <+: ((fsOps leaves {} (obsOf c evs)).2 ++ endOps (fsOps leaves {} (obsOf c evs)).1).flatMap Op.steps) :
    ∀ p ∈ (Dir.run {} pre).cleanup.files, p.1.kind = Kind.F ∧ p.2 = Status.complete :=
  c10_cleanup_leaves_only_complete _ (pipe_ops_valid leaves c hK evs hstop).2.1 pre hp

/-- **(3)** several camera connections in one daemon life: every connection is translated exactly, and the
concatenated operation list obeys the recorder protocol -/
theorem pipe_c10_connections (leaves : Nat → Bool) (conns : List (PCfg × List Ev))
    (hK : ∀ p ∈ conns, 0 < p.1.K) (hstop : ∀ p ∈ conns, StopsSucceed (obsOf p.1 p.2)) :
    (∀ p ∈ conns, ∀ n, Exact leaves { next := n } (obsOf p.1 p.2)) ∧
    ValidOps [] [] (connsOps leaves 0 conns).2 :=
  ⟨fun p hp n => pipe_exact leaves p.1 (hK p hp) p.2 (hstop p hp) n,
   (connsOps_spec leaves conns 0).valid [] [] (fun _ h => by cases h)⟩

/-- (3), from any id counter and after any `used` below it; the ids started lie between the counters -/
theorem pipe_connections_from (leaves : Nat → Bool) (conns : List (PCfg × List Ev)) (n : Nat) (used : List Nat)
    (hused : ∀ x ∈ used, x < n) :
    ValidOps [] used (connsOps leaves n conns).2 ∧
    ∀ x ∈ startedIds (connsOps leaves n conns).2, n ≤ x ∧ x < (connsOps leaves n conns).1 :=
  ⟨(connsOps_spec leaves conns n).valid [] used hused, (connsOps_spec leaves conns n).ids⟩

/-- **(3') a whole history of lives**, each a list of connections, each killed after `kill` system calls: a valid
history in the sense of `Props.C10Gen` (no hypothesis needed; each connection is translated exactly under the
hypotheses of `pipe_exact`) -/
theorem pipe_lives_valid (leaves : Nat → Bool) : ∀ (hist : List DLife) (n : Nat) (used : List Nat),
    (∀ x ∈ used, x < n) → ValidLives used (livesOf leaves n hist) := by
  intro hist
  induction hist with
  | nil => intro n used _; exact .nil
  | cons l ls ih =>
    intro n used hu
    exact life_then (connsOps_spec leaves l.conns n) l.kill hu fun used' hu' => ih _ used' hu'

/-- **(3'') C10 over every history of frame histories**: in life number `k`, at every system call up to its kill
(after the kills, restarts and clean-ups of the lives before it), every `.cptv` name is a complete recording never
written in place, and cleaning up leaves complete recordings only -/
theorem pipe_c10_lives (leaves : Nat → Bool) (hist : List DLife) (k : Nat)
    (hk : k < (livesOf leaves 0 hist).length) (pre : List Sys) (hp : pre <+: (livesOf leaves 0 hist)[k].pre) :
    ((afterLives {} ((livesOf leaves 0 hist).take k)).run pre).ok = true ∧
      ∀ p ∈ ((afterLives {} ((livesOf leaves 0 hist).take k)).run pre).cleanup.files,
        p.1.kind = Kind.F ∧ p.2 = Status.complete :=
  c10_generations_whole_history _ (pipe_lives_valid leaves hist 0 [] (fun _ h => by cases h)) k hk pre hp

/-! ## Non-vacuity -/

instance (os : List Obs) : Decidable (StopsSucceed os) := by unfold StopsSucceed; infer_instance

/-- ring of 3, recordings of 2 to 4 frames, trigger on the first motion frame, continuous recorder on, test
recordings of 2 frames -/
private def cfg : PCfg := ⟨3, 2, 4, 1, true, 1⟩

/-- a still frame, a test request, a motion frame (the motion recorder starts, writes the pre-trigger frame and this
one; the test recording starts), a still frame (the motion recording reaches its length and stops; so does the test
recording), a bad frame (stops the continuous recorder), motion again with `StartRecording` FAILING on the motion
sink, motion again (now it starts) -/
private def evs : List Ev :=
  [.frame false {}, .testReq, .frame true {}, .frame false {}, .bad {}, .frame true { mStart := false },
   .frame true {}]

private def evsOps : List Op :=
  [.start 0, .write 0,                            -- continuous recorder: file 0
   .start 1, .write 1, .write 1, .write 0,        -- motion recorder: file 1 (two frames); continuous
   .start 2, .write 2,                            -- test recorder: file 2
   .write 1, .stop 1, .write 0, .write 2, .stop 2,  -- motion stops; continuous; test stops
   .stop 0,                                       -- bad frame: continuous stops
   .startFail 3,                                  -- the failing start of the motion recorder leaves `3.cptv.temp`
   .start 4, .write 4,                            -- continuous again: file 4
   .start 5, .write 5, .write 5, .write 4]        -- motion: file 5; continuous

set_option maxRecDepth 20000 in
/-- the operations of that connection: three sinks interleaved; motion file 5 and continuous file 4 still open -/
example : fsOps (fun _ => true) {} (obsOf cfg evs) = ({ motion := some 5, const := some 4, next := 6 }, evsOps) := rfl

set_option maxRecDepth 20000 in
/-- when the failing start leaves nothing behind, id 3 is skipped -/
example : (fsOps (fun _ => false) {} (obsOf cfg evs)).2 =
    evsOps.take 14 ++ evsOps.drop 15 := rfl

set_option maxRecDepth 20000 in
/-- the hypothesis of the theorems holds for it (by evaluation; also by `stopsSucceed_of_faults`) -/
example : StopsSucceed (obsOf cfg evs) := by decide +kernel

example : StopsSucceed (obsOf cfg evs) :=
  stopsSucceed_of_faults _ _ (by simp [evs, StopFaultFree, Ev.faults])

/-- the end of the connection discards motion file 5 -/
example : endOps { motion := some 5, const := some 4, next := 6 } = [.discard 5] := rfl

/-- the directory after the connection has ended: three complete recordings, the debris of the failed start and the
abandoned continuous recording; clean-up leaves the three recordings -/
example : (Dir.run {} ((evsOps ++ [Op.discard 5]).flatMap Op.steps)).files =
    [(⟨4, .T⟩, .partialData), (⟨4, .S⟩, .partialData), (⟨3, .T⟩, .partialData),
     (⟨0, .F⟩, .complete), (⟨2, .F⟩, .complete), (⟨1, .F⟩, .complete)] ∧
    (Dir.run {} ((evsOps ++ [Op.discard 5]).flatMap Op.steps)).cleanup.files =
    [(⟨0, .F⟩, .complete), (⟨2, .F⟩, .complete), (⟨1, .F⟩, .complete)] := by decide +kernel

/-- `Exact` is not vacuous: observation lists that break the sink protocol (a write before any start; a second
start while a file is open; a failing stop on an open file) are not translated exactly — although their translation
is still a `ValidOps` sequence (`ops_valid_any`) -/
example (leaves : Nat → Bool) :
    ¬ Exact leaves {} [.call .motion (.write 0) true] ∧
    ¬ Exact leaves {} [.call .test .start true, .call .test .start true] ∧
    ¬ Exact leaves {} [.call .const .start true, .call .const .stop false] ∧
    fsOps leaves {} [.call .motion (.write 0) true, .call .test .start true, .call .test .start true,
      .call .test .stop false] = ({ next := 2 }, [.start 0, .start 1]) := by
  refine ⟨fun h => ?_, fun h => ?_, fun h => ?_, rfl⟩
  · have := h [] _ [] rfl; cases this
  · have := h [_] _ [] rfl; cases this
  · have := h [_] _ [] rfl; cases this

/-- a second connection: the continuous recorder's first start fails, then motion -/
private def evs2 : List Ev := [.frame false { cStart := false }, .frame true {}]

set_option maxRecDepth 20000 in
/-- two connections in one life: ids continue (6 …), motion file 5 is discarded at the end of the first connection,
continuous file 4 is abandoned (never touched again) -/
example : connsOps (fun _ => true) 0 [(cfg, evs), (cfg, evs2)] =
    (9, evsOps ++ [.discard 5] ++
      [.startFail 6, .start 7, .write 7, .write 7, .start 8, .write 8, .discard 7]) := rfl

/-- two lives: the first (two connections, the failed start 6 leaving nothing) killed after 60 of its 74 system
calls, the second killed after 12 of 17 (inside `stop 9`, before the rename) -/
private def hist : List DLife :=
  [⟨[(cfg, evs), (cfg, evs2)], 60⟩, ⟨[(cfg, [.frame true {}, .frame false {}, .frame false {}])], 12⟩]

set_option maxRecDepth 20000 in
example : (livesOf (fun n => n != 6) 0 hist).map (·.ops) =
    [evsOps ++ [.discard 5] ++ [.start 7, .write 7, .write 7, .start 8, .write 8, .discard 7],
     [.start 9, .write 9, .start 10, .write 10, .write 9, .stop 9, .write 10, .write 10]] := rfl

set_option maxRecDepth 20000 in
example : (livesOf (fun n => n != 6) 0 hist).map (fun l => (l.pre.length, (l.ops.flatMap Op.steps).length)) =
    [(60, 74), (12, 17)] := by decide +kernel

set_option maxRecDepth 20000 in
/-- the crash state of the second life: the three recordings of the first life survived its kill and the restart;
recordings 9 (killed inside its stop) and 10 are debris; the next start-up leaves the three recordings -/
example :
    ((livesOf (fun n => n != 6) 0 hist)[1]?.map fun l =>
        ((afterLives {} ((livesOf (fun n => n != 6) 0 hist).take 1)).run l.pre).files) =
      some [(⟨10, .T⟩, .partialData), (⟨10, .S⟩, .partialData), (⟨9, .T⟩, .partialData), (⟨9, .S⟩, .partialData),
       (⟨0, .F⟩, .complete), (⟨2, .F⟩, .complete), (⟨1, .F⟩, .complete)] ∧
    (afterLives {} (livesOf (fun n => n != 6) 0 hist)).files =
      [(⟨0, .F⟩, .complete), (⟨2, .F⟩, .complete), (⟨1, .F⟩, .complete)] := by decide +kernel

end TR.C10Pipe
