import Proofs.ProcC03
/-!
# C04 — a recording starts iff motion persisted, the window is open and storage is OK

Quantifier: every configuration (any `trig`, `minF`, `maxF`, ring capacity, continuous recorder on/off),
every finite list of events (motion / still / rejected frames, resets, test-recording requests) and
every placement of environment faults (window closed, disk check failing, `StartRecording` failing,
any write or stop failing on any sink).
-/
namespace TR.C04
open P03

/-- **C04.** A recording starts iff no recording is active, the frame completes a run of ≥ `trig` motion
frames, the window is open, the disk check passes and the file can be created — for every event list and
EVERY fault placement; the disk check / `StartRecording` are consulted exactly when the earlier
conditions hold. -/
theorem c04_start_monitor (c : PCfg) (evs : List Ev) :
    monC04 c.trig (PState.trace c (PState.init c) evs) = [] :=
  (i4_trace c evs (PState.init c) {} (i4_init c)).fails

/-- the monitor's view of the state agrees with the model after every event list: it knows whether a
recording is open and, while none is, the length of the current motion run -/
theorem c04_monitor_tracks (c : PCfg) (evs : List Ev) :
    ((PState.trace c (PState.init c) evs).foldl (M4.step c.trig) {}).openRec
      = (PState.after c (PState.init c) evs).isRec ∧
    ((PState.after c (PState.init c) evs).isRec = false →
      ((PState.trace c (PState.init c) evs).foldl (M4.step c.trig) {}).run
        = (PState.after c (PState.init c) evs).triggered) :=
  ⟨(i4_trace c evs (PState.init c) {} (i4_init c)).openEq, (i4_trace c evs (PState.init c) {} (i4_init c)).runEq⟩

/-- **Start condition, stated on the model.** From ANY state, a frame event makes a successful
`StartRecording` call iff no recording is active, the frame shows motion, it is at least the `trig`-th
motion frame in a row, the window is open, the disk check passes and the sink accepts the start. -/
theorem c04_start_iff (c : PCfg) (s : PState) (motion : Bool) (f : Faults) :
    hasStartOk (PState.step c s (.frame motion f)).2 = true ↔
      s.isRec = false ∧ motion = true ∧ c.trig ≤ s.triggered + 1 ∧ f.win = true ∧ f.can = true ∧
        f.mStart = true := by
  rw [(frame_summary c s motion f).1]
  rw [starts_pre]
  simp only [starts, attempt, Bool.and_eq_true, Bool.not_eq_true', decide_eq_true_eq, and_assoc]

/-- **After a refused start the very next motion frame retries**: a refusal (window closed, disk check
failed, or `StartRecording` failed) does not reset the motion run, and no recording is open. -/
theorem c04_refusal_keeps_run (c : PCfg) (s : PState) (f : Faults)
    (hrec : s.isRec = false) (_htrig : c.trig ≤ s.triggered + 1)
    (hgate : f.win = false ∨ f.can = false ∨ f.mStart = false) :
    (PState.step c s (.frame true f)).1.triggered = s.triggered + 1 ∧
    (PState.step c s (.frame true f)).1.isRec = false ∧
    hasStartOk (PState.step c s (.frame true f)).2 = false := by
  have hs : starts c (pre s) true f = false := by
    rw [starts_pre]; unfold starts
    rcases hgate with h | h | h <;> simp [h]
  obtain ⟨h3, h4, _⟩ := frame_idle c s true f (by rw [rec1, hs]; simp [pre, hrec])
  exact ⟨h4, h3, (frame_summary c s true f).1.trans hs⟩

/-- … and the retry succeeds as soon as the gate opens: the next motion frame starts a recording. -/
theorem c04_retry_starts (c : PCfg) (s : PState) (f g : Faults)
    (hrec : s.isRec = false) (htrig : c.trig ≤ s.triggered + 1)
    (hgate : f.win = false ∨ f.can = false ∨ f.mStart = false)
    (hopen : g.win = true ∧ g.can = true ∧ g.mStart = true) :
    hasStartOk (PState.step c (PState.step c s (.frame true f)).1 (.frame true g)).2 = true := by
  obtain ⟨h1, h2, _⟩ := c04_refusal_keeps_run c s f hrec htrig hgate
  rw [c04_start_iff]
  refine ⟨h2, rfl, ?_, hopen.1, hopen.2.1, hopen.2.2⟩
  rw [h1]; omega

/-! ## Non-vacuity: the monitor rejects wrong traces, and the model does start / refuse recordings -/

/-- a start on the first motion frame when two are required is rejected by the monitor -/
example : "C04:start-before-trigger-frames" ∈
    monC04 2 [⟨.frame true {}, [.md, .call .motion .can true, .call .motion .start true, .rs]⟩] := by decide +kernel
/-- a missing start is rejected by the monitor -/
example : monC04 1 [⟨.frame true {}, [.md]⟩] = ["C04:start-missing"] := rfl
/-- a start with the window closed is rejected by the monitor -/
example : "C04:start-outside-window" ∈ monC04 1 [⟨.frame true { win := false },
    [.md, .call .motion .can true, .call .motion .start true, .rs]⟩] := by decide +kernel

/-- the model starts a recording on the second motion frame … -/
example (c : PCfg) (hc : c = { K := 3, minF := 2, maxF := 5, trig := 2, constOn := true, testLast := 2 }) :
    (PState.trace c (PState.init c) [.frame true {}, .frame true {}]).map (fun st => hasStartOk st.obs)
    = [false, true] := by
  subst hc; decide +kernel
/-- … refuses while the disk check fails, and starts on the very next motion frame once it passes -/
example (c : PCfg) (hc : c = { K := 3, minF := 2, maxF := 5, trig := 2, constOn := true, testLast := 2 }) :
    (PState.trace c (PState.init c)
      [.frame true {}, .frame true { can := false }, .frame true {}]).map (fun st => hasStartOk st.obs)
    = [false, false, true] := by
  subst hc; decide +kernel

end TR.C04
