import Generated.Facts
/-! # Source facts — C17 C11: test recording and continuous file lengths -/
namespace TR.FactsProc
open Facts

/-- C17: a test recording is `testRecLast + 1 = 21` frames; the continuous file is cut after maxFrames+1 -/
theorem test_recording_length : testRecLast + 1 = 21 ∧ testRecStopTest = "mp.snapshotFrames > 20" ∧
    constRecStopTest = "mp.crFrames > mp.maxFrames" := ⟨rfl, rfl, rfl⟩

end TR.FactsProc
