import Props.FactsRing
import Props.FactsLimits
import Props.FactsRecorderConfig
import Props.FactsReset
import Props.FactsGates
import Props.FactsFFC
import Props.FactsTestRec
import Props.FactsLog
/-!
# Source facts the processor / detector / limiter theorems rely on

`Generated.Facts` is rewritten from /repo's current source by tools/gofacts on every check; the theorems of the imported
modules (namespace `TR.FactsProc`) re-open as proof obligations whenever the extracted text changes.  All `Props.Facts*`
modules are small, one per concern, so that a rewrite of one function re-opens only the obligations of the properties
that depend on it.
-/
