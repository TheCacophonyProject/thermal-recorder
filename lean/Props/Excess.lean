import Proofs.Excess
import Props.C10Glob

/-!
# Excess — what `deleteExcessRecordings` of the continuous recorder deletes, for EVERY disk

The model is `TR.Excess` (read its header first: what a `Disk` is, truncated subtraction, `total = 0`).
`deleteExcess d : Run` is the call on the disk `d`: `.disk` the disk afterwards, `.result` the outcome
(`ok` = `return nil`, `noMoreRecordings` = the error, `divideByZero` = Go's panic when `fs.Blocks = 0`),
`.deleted` the names removed, in the order of removal.

Vocabulary: `d.matching` = the files of the directory that `*.cptv*` matches, in directory order = oldest
first; `d.unrelated` = the other files; `d.afterDeleting k` = the disk with the first `k` matching files
gone and everything else in place; `d.percentLeft` = `avail * 100 / total`.

All theorems hold for all disks: any sizes (also `other + files > total`, also `total = 0`), any names (also
repeated ones), any number of files.  No theorem has a hypothesis on the disk except where it is stated.

0. `deleteExcess_loop_equation` — the model satisfies the equation of the Go loop, no fuel in it; `step_delete`.
1. `deleted_le_files`.
2. `deleted_is_oldest_prefix`, `only_matching_deleted`.
3. `minimal`, `ok_iff`, `ok_least`, `noMoreRecordings_iff`, `divideByZero_iff`, `noMoreRecordings_deletes_all`.
4. `enough_room_untouched`.
5. `other_untouched`.
6. `monotone`, `run_passes_through`, `percent_never_decreases`, `ok_percent`.
7. `matchesGlob_iff` and what the pattern matches besides finished recordings.
8. Examples, evaluated by the kernel.
9. Arithmetic remarks: `more_than_30_means_31`, `percentLeftU64_eq`.
-/
namespace TR.Excess

/-! ## 0. The model is the Go loop -/

/-- `deleteExcess` satisfies the equation of the Go loop: one pass through the body (`Disk.step`: panic if
`total = 0`; `ok` if more than 30 % left; else glob, error if nothing matches, else delete the first match) and,
after a deletion, the same again on the disk without that name. -/
theorem deleteExcess_loop_equation (d : Disk) :
    deleteExcess d =
      match d.step with
      | .stop r => ⟨d, r, []⟩
      | .delete n =>
        let r := deleteExcess (d.remove n)
        { r with deleted := n :: r.deleted } :=
  deleteExcessBy_equation matchesGlob d

/-- the name a pass deletes is the first matching one, and removing it by name is removing the oldest
matching file (also when names repeat) -/
theorem step_delete (d : Disk) (n : String) (h : d.step = .delete n) :
    d.total ≠ 0 ∧ d.percentLeft ≤ 30 ∧ (d.matching.head?.map (·.name) = some n) ∧
      d.remove n = d.afterDeleting 1 := by
  obtain ⟨a, b, ⟨f, rest, hm, hf⟩, c⟩ := stepBy_delete matchesGlob d n h
  refine ⟨a, b, ?_, c⟩
  show (d.matchingBy matchesGlob).head?.map (·.name) = some n
  rw [hm]; simp [hf]

/-! ## 1. Never more deletions than matching files -/

theorem deleted_le_files (d : Disk) :
    (deleteExcess d).deleted.length ≤ d.matching.length ∧ d.matching.length ≤ d.files.length :=
  ⟨(deleteExcessBy_good matchesGlob d).le, matchingBy_length_le matchesGlob d⟩

/-! ## 2. The oldest go first, nothing is skipped, nothing else is touched -/

/-- With `k` the number of deletions: the deleted names are the names of the first `k` matching files, in
that order (a PREFIX of the matching names); the directory afterwards is the original one without exactly
those `k` files: its matching files are the remaining ones, its other files are all there, and it is a
sublist of the original directory (the order is preserved). -/
theorem deleted_is_oldest_prefix (d : Disk) :
    let r := deleteExcess d
    let k := r.deleted.length
    r.deleted <+: d.matching.map (·.name) ∧
    r.deleted = (d.matching.take k).map (·.name) ∧
    r.disk = d.afterDeleting k ∧
    r.disk.matching = d.matching.drop k ∧
    r.disk.unrelated = d.unrelated ∧
    r.disk.files.Sublist d.files := by
  intro r k
  have g := deleteExcessBy_good matchesGlob d
  have hn : r.deleted = (d.matching.take k).map (·.name) := g.names
  have hd : r.disk = d.afterDeleting k := g.disk
  refine ⟨?_, hn, hd, ?_, ?_, ?_⟩
  · rw [hn, List.map_take]; exact List.take_prefix _ _
  · rw [hd]; exact matchingBy_afterDeletingBy matchesGlob d k
  · rw [hd]; exact unrelatedBy_afterDeletingBy matchesGlob d k
  · rw [hd]; exact dropOldestBy_sublist matchesGlob k d.files

/-- nothing that the pattern does not match is ever deleted -/
theorem only_matching_deleted (d : Disk) : ∀ n ∈ (deleteExcess d).deleted, matchesGlob n = true := by
  intro n hn
  have h := (deleted_is_oldest_prefix d).1
  have : n ∈ d.matching.map (·.name) := h.subset hn
  obtain ⟨f, hf, rfl⟩ := List.mem_map.mp this
  exact (List.mem_filter.mp hf).2

/-! ## 3. As few deletions as possible; when the call succeeds and when it fails -/

/-- deletion stops as early as possible: with any smaller number of deletions there was still ≤ 30 % left
(whatever the outcome) -/
theorem minimal (d : Disk) :
    ∀ j, j < (deleteExcess d).deleted.length → (d.afterDeleting j).percentLeft ≤ 30 :=
  (deleteExcessBy_good matchesGlob d).before

/-- the call returns `nil` iff deleting SOME number of the oldest matching files leaves more than 30 % -/
theorem ok_iff (d : Disk) :
    (deleteExcess d).result = .ok ↔
      ∃ j, j ≤ d.matching.length ∧ 30 < (d.afterDeleting j).percentLeft :=
  result_ok_iff matchesGlob d

/-- when the call returns `nil`, the number of deletions is the LEAST number that leaves more than 30 % -/
theorem ok_least (d : Disk) (h : (deleteExcess d).result = .ok) :
    30 < (d.afterDeleting (deleteExcess d).deleted.length).percentLeft ∧
      ∀ j, 30 < (d.afterDeleting j).percentLeft → (deleteExcess d).deleted.length ≤ j := by
  have g := deleteExcessBy_good matchesGlob d
  refine ⟨?_, ?_⟩
  · have := (g.ok h).2; rwa [g.disk] at this
  · intro j hj
    refine Nat.le_of_not_lt fun hlt => ?_
    have := minimal d j hlt
    omega

/-- the call returns the error iff even deleting ALL matching files leaves ≤ 30 % (on a file system with
`total ≠ 0`) -/
theorem noMoreRecordings_iff (d : Disk) :
    (deleteExcess d).result = .noMoreRecordings ↔
      d.total ≠ 0 ∧ (d.afterDeleting d.matching.length).percentLeft ≤ 30 :=
  result_noMore_iff matchesGlob d

/-- Go panics iff the file system reports 0 blocks; nothing is deleted then -/
theorem divideByZero_iff (d : Disk) :
    ((deleteExcess d).result = .divideByZero ↔ d.total = 0) ∧
      (d.total = 0 → deleteExcess d = ⟨d, .divideByZero, []⟩) := by
  refine ⟨result_divz_iff matchesGlob d, fun h => ?_⟩
  rw [deleteExcess_loop_equation]
  have : d.step = .stop .divideByZero := stepBy_of_total_zero matchesGlob d h
  rw [this]

/-- THE PRICE OF THE ERROR: when the call returns the error it has deleted EVERY matching file first — the
directory is left with the unrelated files only, and there is still ≤ 30 % left. -/
theorem noMoreRecordings_deletes_all (d : Disk) (h : (deleteExcess d).result = .noMoreRecordings) :
    (deleteExcess d).deleted = d.matching.map (·.name) ∧
      (deleteExcess d).disk.files = d.unrelated ∧
      (deleteExcess d).disk.matching = [] ∧
      (deleteExcess d).disk.percentLeft ≤ 30 := by
  have g := deleteExcessBy_good matchesGlob d
  obtain ⟨_, hk, hp⟩ := g.noMore h
  have hk' : (deleteExcess d).deleted.length = d.matching.length := hk
  obtain ⟨_, hn, hd, hm, _, _⟩ := deleted_is_oldest_prefix d
  refine ⟨?_, ?_, ?_, hp⟩
  · rw [hn, hk', List.take_length]
  · rw [hd, hk']
    exact dropOldestBy_of_le matchesGlob _ d.files (Nat.le_refl _)
  · rw [hm, hk', List.drop_length]

/-! ## 4. Enough room: nothing happens -/

theorem enough_room_untouched (d : Disk) (h : 30 < d.percentLeft) :
    deleteExcess d = ⟨d, .ok, []⟩ := by
  rw [deleteExcess_loop_equation]
  have : d.step = .stop .ok := stepBy_of_enough matchesGlob d h
  rw [this]

/-! ## 5. The rest of the file system is safe -/

/-- `total` and `other` (everything outside the directory: the motion recordings of the main output
directory) never change, and every file that `*.cptv*` does not match is still there, in place -/
theorem other_untouched (d : Disk) :
    (deleteExcess d).disk.total = d.total ∧
      (deleteExcess d).disk.other = d.other ∧
      (deleteExcess d).disk.unrelated = d.unrelated := by
  obtain ⟨_, _, hd, _, hu, _⟩ := deleted_is_oldest_prefix d
  refine ⟨?_, ?_, hu⟩ <;> rw [hd] <;> rfl

/-! ## 6. The free percentage during the run -/

/-- the more of the oldest files are gone, the larger (or equal) the free percentage -/
theorem monotone (d : Disk) (i j : Nat) (h : i ≤ j) :
    (d.afterDeleting i).percentLeft ≤ (d.afterDeleting j).percentLeft :=
  percentLeft_afterDeletingBy_mono matchesGlob d i j h

/-- the disks the run passes through are `d.afterDeleting 0`, `d.afterDeleting 1`, … `d.afterDeleting k`:
started from the `j`-th of them, the call does the rest of the run (same final disk, same outcome, the
remaining deletions) -/
theorem run_passes_through (d : Disk) (j : Nat) (hj : j ≤ (deleteExcess d).deleted.length) :
    deleteExcess (d.afterDeleting j) =
      { deleteExcess d with deleted := (deleteExcess d).deleted.drop j } :=
  deleteExcessBy_from matchesGlob d j hj

/-- the call never makes things worse -/
theorem percent_never_decreases (d : Disk) : d.percentLeft ≤ (deleteExcess d).disk.percentLeft := by
  have := monotone d 0 (deleteExcess d).deleted.length (Nat.zero_le _)
  rw [← (deleted_is_oldest_prefix d).2.2.1] at this
  simpa [Disk.afterDeleting] using this

/-- after `return nil` there is more than 30 % left -/
theorem ok_percent (d : Disk) (h : (deleteExcess d).result = .ok) :
    30 < (deleteExcess d).disk.percentLeft :=
  ((deleteExcessBy_good matchesGlob d).ok h).2

/-! ## 7. What `*.cptv*` matches -/

/-- the pattern matches exactly the names that contain `.cptv` somewhere (`<:+:` = contiguous block) -/
theorem matchesGlob_iff (n : String) : matchesGlob n = true ↔ ".cptv".toList <:+: n.toList := by
  unfold matchesGlob
  rw [show "*.cptv*".toList = '*' :: (".cptv".toList ++ ['*']) from String.toList_ofList]
  exact TR.C10.glob_star_lit_star_iff _ (by decide) _

/-- `hasCptv` (`Proofs.Excess`) is the same test by structural recursion; the examples are evaluated with it -/
theorem matchesGlob_eq_hasCptv : matchesGlob = hasCptv := by
  funext n
  rw [Bool.eq_iff_iff, matchesGlob_iff, hasCptv, containsBlock_iff]

theorem deleteExcess_eval (d : Disk) : deleteExcess d = deleteExcessBy hasCptv d := by
  rw [deleteExcess, matchesGlob_eq_hasCptv]

/-- so it matches a finished recording, but also the two UNFINISHED files of a recording that is being
written, a file of any other kind whose name happens to contain `.cptv`, and not a file without it -/
theorem matches_unfinished :
    matchesGlob "20240102.030405.000.cptv" = true ∧
    matchesGlob "20240102.030405.000.cptv.temp" = true ∧
    matchesGlob "20240102.030405.000.cptv.temp.tmp" = true ∧
    matchesGlob "backup.cptv.d" = true ∧
    matchesGlob "20240102.030405.000.cpt" = false ∧
    matchesGlob "notes.txt" = false := by
  rw [matchesGlob_eq_hasCptv]; decide +kernel

/-- for every time stamp: all three names of a recording are matched -/
theorem matches_all_three (stamp : String) :
    matchesGlob (stamp ++ ".cptv") = true ∧ matchesGlob (stamp ++ ".cptv.temp") = true ∧
      matchesGlob (stamp ++ ".cptv.temp.tmp") = true := by
  simp only [matchesGlob_iff, String.toList_append]
  refine ⟨⟨stamp.toList, [], by simp⟩, ⟨stamp.toList, ".temp".toList, ?_⟩,
    ⟨stamp.toList, ".temp.tmp".toList, ?_⟩⟩
  · rw [show ".cptv.temp".toList = ".cptv".toList ++ ".temp".toList from String.toList_append (s := ".cptv") (t := ".temp")]; simp
  · rw [show ".cptv.temp.tmp".toList = ".cptv".toList ++ ".temp.tmp".toList from String.toList_append (s := ".cptv") (t := ".temp.tmp")]; simp

/-- a directory whose oldest name is a temporary file: 20 % left, so one deletion is needed — and the file
that goes is the temporary file, not the oldest finished recording -/
def tempFirst : Disk :=
  { total := 1000, other := 500,
    files := [⟨"20240101.235959.000.cptv.temp", 150⟩, ⟨"20240102.000500.000.cptv", 150⟩] }

theorem temp_file_deleted_first :
    tempFirst.percentLeft = 20 ∧
    deleteExcess tempFirst =
      ⟨{ tempFirst with files := [⟨"20240102.000500.000.cptv", 150⟩] }, .ok,
        ["20240101.235959.000.cptv.temp"]⟩ := by
  rw [deleteExcess_eval]; decide +kernel

/-! ## 8. Examples (not vacuous) -/

/-- 1000 blocks, 600 used elsewhere, 300 in the directory: 10 % left.  Five finished recordings of different
sizes, one temporary file among them, one unrelated file. -/
def tenPercent : Disk :=
  { total := 1000, other := 600,
    files := [⟨"20240101.000000.000.cptv", 50⟩, ⟨"20240101.010000.000.cptv", 70⟩,
              ⟨"20240101.020000.000.cptv.temp", 30⟩, ⟨"20240102.000000.000.cptv", 80⟩,
              ⟨"20240103.000000.000.cptv", 40⟩, ⟨"20240104.000000.000.cptv", 20⟩,
              ⟨"notes.txt", 10⟩] }

/-- 10 % → 15 % → 22 % → 25 % → 33 %: the four oldest matching files go (the temporary file is the third),
the two newest recordings and the unrelated file stay -/
theorem tenPercent_run :
    tenPercent.percentLeft = 10 ∧
    deleteExcess tenPercent =
      ⟨{ tenPercent with files := [⟨"20240103.000000.000.cptv", 40⟩, ⟨"20240104.000000.000.cptv", 20⟩,
                                   ⟨"notes.txt", 10⟩] },
        .ok,
        ["20240101.000000.000.cptv", "20240101.010000.000.cptv", "20240101.020000.000.cptv.temp",
         "20240102.000000.000.cptv"]⟩ ∧
    (List.range 5).map (fun j => (tenPercent.afterDeleting j).percentLeft) = [10, 15, 22, 25, 33] ∧
    (deleteExcess tenPercent).disk.percentLeft = 33 := by
  simp only [deleteExcess_eval, Disk.afterDeleting, matchesGlob_eq_hasCptv]; decide +kernel

/-- 1000 blocks, 750 used by the MAIN output directory and the rest of the system, 200 by the continuous
recorder: 5 % left.  Deleting all five recordings gives 25 %: the call deletes all five and THEN fails. -/
def mainDirFull : Disk :=
  { total := 1000, other := 750,
    files := [⟨"20240101.000000.000.cptv", 40⟩, ⟨"20240102.000000.000.cptv", 40⟩,
              ⟨"20240103.000000.000.cptv", 40⟩, ⟨"20240104.000000.000.cptv", 40⟩,
              ⟨"20240105.000000.000.cptv", 40⟩, ⟨"notes.txt", 0⟩] }

theorem mainDirFull_run :
    mainDirFull.percentLeft = 5 ∧
    deleteExcess mainDirFull =
      ⟨{ mainDirFull with files := [⟨"notes.txt", 0⟩] }, .noMoreRecordings,
        ["20240101.000000.000.cptv", "20240102.000000.000.cptv", "20240103.000000.000.cptv",
         "20240104.000000.000.cptv", "20240105.000000.000.cptv"]⟩ ∧
    (deleteExcess mainDirFull).disk.percentLeft = 25 := by
  simp only [deleteExcess_eval]; decide +kernel

/-- enough room: nothing happens; a file system of 0 blocks: the panic, nothing deleted; an over-committed
disk (truncated subtraction): 0 % -/
theorem small_examples :
    deleteExcess ⟨1000, 600, [⟨"20240101.000000.000.cptv", 50⟩]⟩ =
      ⟨⟨1000, 600, [⟨"20240101.000000.000.cptv", 50⟩]⟩, .ok, []⟩ ∧
    deleteExcess ⟨0, 0, [⟨"20240101.000000.000.cptv", 50⟩]⟩ =
      ⟨⟨0, 0, [⟨"20240101.000000.000.cptv", 50⟩]⟩, .divideByZero, []⟩ ∧
    (Disk.mk 1000 990 [⟨"20240101.000000.000.cptv", 50⟩]).percentLeft = 0 := by
  simp only [deleteExcess_eval]; decide +kernel

/-- the helper of the test driver on the first example -/
theorem expectDeleted_example :
    expectDeleted 1000 600
      [("20240101.000000.000.cptv", 50), ("20240101.010000.000.cptv", 70),
       ("20240101.020000.000.cptv.temp", 30), ("20240102.000000.000.cptv", 80),
       ("20240103.000000.000.cptv", 40), ("20240104.000000.000.cptv", 20), ("notes.txt", 10)] = (4, true) ∧
    expectDeleted 1000 750 [("20240101.000000.000.cptv", 40), ("20240102.000000.000.cptv", 40)] = (2, false) := by
  simp only [expectDeleted, deleteExcess_eval]; decide +kernel

/-! ## 9. Arithmetic remarks -/

/-- "more than 30 %" with integer division means AT LEAST 31 %: 30.9 % free still deletes -/
theorem more_than_30_means_31 (d : Disk) (h : d.total ≠ 0) :
    30 < d.percentLeft ↔ 31 * d.total ≤ d.avail * 100 :=
  percent_gt_30_iff d h

theorem almost_31_percent_deletes :
    (Disk.mk 1000 0 [⟨"20240101.000000.000.cptv", 691⟩]).avail = 309 ∧
    (deleteExcess ⟨1000, 0, [⟨"20240101.000000.000.cptv", 691⟩]⟩).deleted = ["20240101.000000.000.cptv"] := by
  simp only [deleteExcess_eval]; decide +kernel

/-- Go's `uint64` computation `(Bavail * 100) / Blocks` is the one of the model as long as `total * 100` fits
in 64 bits (file systems below 2^64 / 100 blocks: about 687 million TiB with 4 KiB blocks) -/
theorem percentLeftU64_eq (d : Disk) (h : d.total * 100 < 2 ^ 64) : d.percentLeftU64 = d.percentLeft :=
  percentLeftU64_eq_of_lt d h

/-- beyond that the product wraps: a disk of 2^63 blocks, all free, has "0 % left" in `uint64` -/
theorem percentLeftU64_wraps :
    (Disk.mk (2 ^ 63) 0 []).percentLeft = 100 ∧ (Disk.mk (2 ^ 63) 0 []).percentLeftU64 = 0 := by
  decide +kernel

end TR.Excess
