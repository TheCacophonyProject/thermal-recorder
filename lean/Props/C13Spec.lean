import Props.C13
import Proofs.C13Spec
import Proofs.C04Spec
/-!
# C13 (processor part), de-monitored — acceptance by `monC13` IS the bad-frame rule

`Props.C13` states C13 through the executable monitor `monC13` (a fold of the state machine `M13.step`).
Here the monitor is taken out of the trusted reading.  The definitions (`Proofs.C13Spec`) do not mention it:

* `Step.isBad` — the step's event is a frame the parser rejected;
* `openBefore tr i` — a motion recording is open before step `i`, the way C13 counts it.  A fold
  (`!isBad && (o || hasStartOk obs) && !hasStop obs`), and in words (`openBefore_spec`): some earlier step
  carries a successful `StartRecording` on the motion sink, and neither that step nor any step after it
  (before `i`) is a bad frame or carries a `StopRecording` on the motion sink;
* `BadFrameRule tr` —
  (1) for every step: `writesGarbage obs = false` (no `WriteFrame` with the id `garbage`, on any sink);
  (2) for every step whose event is `.bad f`: `anyWrite obs = false` (no write on any sink),
      `hasStartAny obs = false` (no `StartRecording` attempt on the motion sink), and
      `openBefore tr i = true → hasStop obs = true` (an open motion recording is stopped in that step).
  `badFrameRule_plain` spells the four observation tests out as membership statements.

`monC13_iff`: for EVERY trace (the model's or one recorded from the real code) the monitor reports nothing
iff `BadFrameRule` holds.  `c13_bad_frame_rule`: hence the model's traces obey it, for every configuration
with `K ≥ 1`, every event list shorter than `garbage` and every fault placement (see `Props.C13` for why the
length bound is needed).

Corners (all exhibited below by evaluation):
* C13's notion of "open" is NOT the one of C04/C03 (`TR.C04Spec.openBefore`): here a reset closes a recording
  only through the stop it carries, and starts / stops observed on events that are not frames count.  The
  rule follows the monitor.  On the model's traces both notions are the processor's `isRec` flag
  (`model_open`, `TR.C04Spec.model_state`);
* "no start attempt" is about the motion sink only (`hasStartAny`); a start of the continuous or test
  recorder on a bad frame is not a C13 matter (C17 fixes the continuous/test layout);
* the bad frame itself always leaves no recording open (`openBefore_after_bad`), whether or not a stop was seen.
-/
namespace TR.C13Spec

/-! ## generic: any trace -/

/-- **The C13 monitor accepts exactly the traces that obey the plain bad-frame rule.** -/
theorem monC13_iff (tr : List Step) : monC13 tr = [] ↔ BadFrameRule tr := by
  rw [monC13, (fold_monitor tr {}).2, badFrameRule_iff, badFrameRuleB]
  exact and_iff_right rfl

/-- soundness alone: what an accepted trace looks like -/
theorem monC13_sound (tr : List Step) (hacc : monC13 tr = []) : BadFrameRule tr :=
  (monC13_iff tr).mp hacc

/-- completeness alone: the monitor raises no false alarm -/
theorem monC13_complete (tr : List Step) (h : BadFrameRule tr) : monC13 tr = [] :=
  (monC13_iff tr).mpr h

/-- **`openBefore` in words**: a motion recording is open before step `i` iff some step before `i` carries a
successful start on the motion sink and neither that step nor any later step before `i` is a bad frame or
carries a stop on the motion sink -/
theorem openBefore_spec (tr : List Step) (i : Nat) :
    openBefore tr i = true ↔
      ∃ pre st post, tr.take i = pre ++ st :: post ∧ hasStartOk st.obs = true ∧
        ∀ s ∈ st :: post, s.isBad = false ∧ hasStop s.obs = false := by
  have h := latch_false_iff nextOpen (fun s => hasStartOk s.obs) (fun s => s.isBad || hasStop s.obs)
    (fun o s => by
      simp only [nextOpen]
      cases s.isBad <;> cases o <;> cases hasStartOk s.obs <;> cases hasStop s.obs <;> rfl) (tr.take i)
  simp only [Bool.or_eq_false_iff] at h
  exact h

/-- `openBefore`, one step at a time -/
theorem openBefore_step (tr : List Step) (i : Nat) (h : i < tr.length) :
    openBefore tr 0 = false ∧
    openBefore tr (i + 1) =
      (!tr[i].isBad && (openBefore tr i || hasStartOk tr[i].obs) && !hasStop tr[i].obs) :=
  ⟨rfl, openBefore_succ tr i h⟩

/-- a bad frame leaves no recording open -/
theorem openBefore_after_bad (tr : List Step) (i : Nat) (h : i < tr.length) (f : Faults)
    (he : tr[i].ev = .bad f) : openBefore tr (i + 1) = false := by
  rw [openBefore_succ tr i h, nextOpen, (isBad_iff _).mpr ⟨f, he⟩]
  rfl

/-! ### the observation tests, read as membership -/

theorem writesGarbage_iff (obs : List Obs) :
    writesGarbage obs = true ↔ ∃ s ok, Obs.call s (.write garbage) ok ∈ obs := by
  simp only [writesGarbage, List.any_eq_true]
  constructor
  · rintro ⟨o, hm, h⟩
    split at h
    · next s id ok =>
      have : id = garbage := eq_of_beq h
      subst this
      exact ⟨s, ok, hm⟩
    · cases h
  · rintro ⟨s, ok, hm⟩
    exact ⟨_, hm, beq_self_eq_true _⟩

theorem anyWrite_iff (obs : List Obs) :
    anyWrite obs = true ↔ ∃ s id ok, Obs.call s (.write id) ok ∈ obs := by
  simp only [anyWrite, List.any_eq_true]
  constructor
  · rintro ⟨o, hm, h⟩
    split at h
    · exact ⟨_, _, _, hm⟩
    · cases h
  · rintro ⟨s, id, ok, hm⟩; exact ⟨_, hm, rfl⟩

theorem hasStartOk_iff (obs : List Obs) :
    hasStartOk obs = true ↔ Obs.call .motion .start true ∈ obs :=
  TR.hasStartOk_iff obs

/-- **`BadFrameRule`, spelled out on the observations**: no step hands the id `garbage` to `WriteFrame` on
any sink; a bad-frame step contains no `WriteFrame` on any sink, no `StartRecording` on the motion sink, and
— if a motion recording was open before it — a `StopRecording` on the motion sink -/
theorem badFrameRule_plain (tr : List Step) :
    BadFrameRule tr ↔
      (∀ st ∈ tr, ∀ s ok, Obs.call s (.write garbage) ok ∉ st.obs) ∧
      ∀ i (h : i < tr.length) (f : Faults), tr[i].ev = .bad f →
        (∀ s id ok, Obs.call s (.write id) ok ∉ tr[i].obs) ∧
        (∀ ok, Obs.call .motion .start ok ∉ tr[i].obs) ∧
        (openBefore tr i = true → ∃ ok, Obs.call .motion .stop ok ∈ tr[i].obs) := by
  have hg : ∀ obs, writesGarbage obs = false ↔ ∀ s ok, Obs.call s (.write garbage) ok ∉ obs := by
    intro obs
    rw [Bool.eq_false_iff, Ne, writesGarbage_iff]
    exact ⟨fun h s ok hm => h ⟨s, ok, hm⟩, fun h ⟨s, ok, hm⟩ => h s ok hm⟩
  have hw : ∀ obs, anyWrite obs = false ↔ ∀ s id ok, Obs.call s (.write id) ok ∉ obs := by
    intro obs
    rw [Bool.eq_false_iff, Ne, anyWrite_iff]
    exact ⟨fun h s id ok hm => h ⟨s, id, ok, hm⟩, fun h ⟨s, id, ok, hm⟩ => h s id ok hm⟩
  have hs : ∀ obs, hasStartAny obs = false ↔ ∀ ok, Obs.call .motion .start ok ∉ obs := by
    intro obs
    rw [Bool.eq_false_iff, Ne, hasStartAny_iff]
    exact ⟨fun h ok hm => h ⟨ok, hm⟩, fun h ⟨ok, hm⟩ => h ok hm⟩
  simp only [BadFrameRule, hg, hw, hs, hasStop_iff]

/-! ### consequences of `BadFrameRule` alone -/

section consequences
variable {tr : List Step}

/-- **the content of a rejected frame never reaches any recorder** -/
theorem garbage_never_written (h : BadFrameRule tr) (st : Step) (hm : st ∈ tr) (s : Sink) (ok : Bool) :
    Obs.call s (.write garbage) ok ∉ st.obs :=
  ((badFrameRule_plain tr).mp h).1 st hm s ok

/-- **a rejected frame is never recorded**: no write on any sink during a bad-frame step -/
theorem bad_frame_not_written (h : BadFrameRule tr) (i : Nat) (hi : i < tr.length) (f : Faults)
    (he : tr[i].ev = .bad f) (s : Sink) (id : Nat) (ok : Bool) :
    Obs.call s (.write id) ok ∉ tr[i].obs :=
  (((badFrameRule_plain tr).mp h).2 i hi f he).1 s id ok

/-- no motion recording starts on a rejected frame -/
theorem bad_frame_no_start (h : BadFrameRule tr) (i : Nat) (hi : i < tr.length) (f : Faults)
    (he : tr[i].ev = .bad f) (ok : Bool) : Obs.call .motion .start ok ∉ tr[i].obs :=
  (((badFrameRule_plain tr).mp h).2 i hi f he).2.1 ok

/-- **a rejected frame ends the recording in progress cleanly**: the motion recorder is stopped in that
very step, and no recording is open after it -/
theorem bad_frame_ends_recording (h : BadFrameRule tr) (i : Nat) (hi : i < tr.length) (f : Faults)
    (he : tr[i].ev = .bad f) (ho : openBefore tr i = true) :
    (∃ ok, Obs.call .motion .stop ok ∈ tr[i].obs) ∧ openBefore tr (i + 1) = false :=
  ⟨(((badFrameRule_plain tr).mp h).2 i hi f he).2.2 ho, openBefore_after_bad tr i hi f he⟩

end consequences

/-! ## the model -/

/-- **C13 as a plain rule.**  For every configuration with `K ≥ 1`, every event list shorter than
`garbage` and every fault placement, the model's trace obeys `BadFrameRule`. -/
theorem c13_bad_frame_rule (c : PCfg) (hK : 0 < c.K) (evs : List Ev) (hlen : evs.length < garbage) :
    BadFrameRule (PState.trace c (PState.init c) evs) :=
  (monC13_iff _).mp (C13.c13_bad_frames c hK evs hlen)

/-- on the model's traces C13's `openAfter` is the processor's own `isRec` flag -/
theorem model_open (c : PCfg) (hK : 0 < c.K) (evs : List Ev) (hlen : evs.length < garbage) :
    openAfter (PState.trace c (PState.init c) evs) = (PState.after c (PState.init c) evs).isRec :=
  (fold_monitor _ {}).1.symm.trans (rel13_trace c hK evs (Nat.le_of_lt hlen)).1

/-! ## non-vacuity -/

private def cfg : PCfg := ⟨3, 2, 9, 1, true, 20⟩

/-- a recording cut by a bad frame, a bad frame while nothing is open, a recording that runs out, one cut by
a reset, a bad frame right after -/
private def evs : List Ev :=
  [.frame true {}, .frame true {}, .bad {}, .bad { mStop := false }, .testReq, .frame true {},
   .frame false {}, .frame false {}, .frame true {}, .reset {}, .bad {}, .frame true {}, .bad { mStop := false }]

set_option maxRecDepth 20000 in
/-- the model's run: accepted, obeys the plain rule; where a recording is open -/
example :
    let tr := PState.trace cfg (PState.init cfg) evs
    monC13 tr = [] ∧ BadFrameRule tr ∧
    (List.range 14).map (openBefore tr) =
      [false, true, true, false, false, false, true, false, false, true, false, false, true, false] ∧
    tr.map (fun st => (st.isBad, hasStop st.obs, anyWrite st.obs)) =
      [(false, false, true), (false, false, true), (true, true, false), (true, false, false),
       (false, false, false), (false, false, true), (false, true, true), (false, false, true),
       (false, false, true), (false, true, false), (true, false, false), (false, false, true),
       (true, true, false)] := by
  decide +kernel

/-- a hand-written accepted trace: writes of ordinary ids, a bad frame that stops the open recording (failed
stop included), a bad frame with nothing open and no observations -/
private def good : List Step :=
  [⟨.frame true {}, [.md, .call .motion .can true, .call .motion .start true, .rs,
      .call .motion (.write 0) true, .call .const .start true, .call .const (.write 0) true]⟩,
   ⟨.bad { mStop := false }, [.re, .call .motion .stop false, .call .const .stop true]⟩,
   ⟨.bad {}, [.call .const .stop true]⟩,
   ⟨.frame true {}, [.md, .call .motion .can true, .call .motion .start true, .rs,
      .call .motion (.write 1) true, .call .motion .stop true]⟩,
   ⟨.bad {}, []⟩]

example :
    monC13 good = [] ∧ BadFrameRule good ∧
    (List.range 6).map (openBefore good) = [false, true, false, false, false, false] := by decide +kernel

/-- a write during a bad frame: rejected, and the rule fails -/
example :
    let tr : List Step := [⟨.bad {}, [.call .const (.write 3) true]⟩]
    monC13 tr = ["C13:write-during-bad-frame"] ∧ ¬ BadFrameRule tr := ⟨rfl, by decide +kernel⟩

/-- a recording left open across a bad frame: rejected, and the rule fails -/
example :
    let tr : List Step := [⟨.frame true {}, [.call .motion .start true]⟩, ⟨.bad {}, []⟩]
    monC13 tr = ["C13:recording-not-ended"] ∧ ¬ BadFrameRule tr ∧ openBefore tr 1 = true :=
  ⟨rfl, by decide +kernel⟩

/-- the rejected content written (on any sink, on any kind of step): rejected, and the rule fails -/
example :
    let tr (s : Sink) : List Step := [⟨.frame true {}, [.call s (.write garbage) true]⟩]
    monC13 (tr .motion) = ["C13:rejected-frame-content-written"] ∧
    ¬ BadFrameRule (tr .motion) ∧ ¬ BadFrameRule (tr .const) ∧ ¬ BadFrameRule (tr .test) ∧
    ¬ BadFrameRule [⟨.reset {}, [.call .test (.write garbage) false]⟩] := ⟨rfl, by decide +kernel⟩

/-- a start attempt on the motion sink during a bad frame (successful or not): rejected, and the rule fails -/
example :
    ¬ BadFrameRule [⟨.bad {}, [.call .motion .start true]⟩] ∧
    ¬ BadFrameRule [⟨.bad {}, [.call .motion .start false]⟩] ∧
    monC13 [⟨.bad {}, [.call .motion .start false]⟩] = ["C13:start-during-bad-frame"] :=
  ⟨by decide +kernel, by decide +kernel, rfl⟩

/-- corner: a failed start opens nothing, so the bad frame needs no stop -/
example : BadFrameRule [⟨.frame true {}, [.call .motion .start false]⟩, ⟨.bad {}, []⟩] := by decide +kernel

/-- corner: C13 counts "open" differently from C04.  A reset without a stop observation leaves C13's flag
set (the following bad frame must carry the stop) while `TR.C04Spec.openBefore` says closed; a start
observed on a test request opens a recording for C13 but not for C04.  The rule follows the monitor. -/
example :
    let tr : List Step := [⟨.frame true {}, [.call .motion .start true]⟩, ⟨.reset {}, []⟩, ⟨.bad {}, []⟩]
    let tr' : List Step := [⟨.testReq, [.call .motion .start true]⟩, ⟨.bad {}, []⟩]
    openBefore tr 2 = true ∧ C04Spec.openBefore tr 2 = false ∧
    monC13 tr = ["C13:recording-not-ended"] ∧ ¬ BadFrameRule tr ∧
    openBefore tr' 1 = true ∧ C04Spec.openBefore tr' 1 = false ∧ ¬ BadFrameRule tr' :=
  ⟨rfl, rfl, rfl, by decide +kernel⟩

/-- corner: only the motion sink's start is a C13 matter -/
example : BadFrameRule [⟨.bad {}, [.call .const .start true, .call .test .start true]⟩] := by decide +kernel

end TR.C13Spec
