import Generated.Facts
/-! # Source facts — C03 C04: recorder.NewConfig -/
namespace TR.FactsProc
open Facts

/-- C03/C04: `recorder.NewConfig` builds the recording window from start-recording / stop-recording and the
location, copies min/max/preview-secs unchanged and rejects max-secs < min-secs -/
theorem recorder_config_wiring :
    windowCtorArgs = "windowsConfig.StartRecording;windowsConfig.StopRecording;float64(windowLocationConfig.Latitude);float64(windowLocationConfig.Longitude)" ∧
    recorderConfigFields = "MinSecs:thermalRecorderConfig.MinSecs;MaxSecs:thermalRecorderConfig.MaxSecs;PreviewSecs:thermalRecorderConfig.PreviewSecs;Window:*w;ConstantRecorder:thermalRecorderConfig.ConstantRecorder" ∧
    recorderConfigValidate = "conf.MaxSecs < conf.MinSecs" := ⟨rfl, rfl, rfl⟩

end TR.FactsProc
