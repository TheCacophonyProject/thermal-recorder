import Generated.Facts
/-! # Source facts — C13 C14 C11: which parser is selected for which camera -/
namespace TR.FactsWiring
open Facts

/-- C13: Lepton cameras are parsed by the lepton3 library's parser, Bosons by `convertRawBosonFrame`
(the two parsers `TR.Parse` models) -/
theorem frame_parser_selection : frameParserMap =
    "lepton3.Model,lepton3.Model35=>return lepton3.ParseRawFrame;\"boson\"=>return convertRawBosonFrame" := rfl

end TR.FactsWiring
