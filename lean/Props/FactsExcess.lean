import Generated.Facts
/-! # Source facts — C17: the continuous recorder's disk management as `TR/Excess` models it (re-extracted by tools/gofacts
at every check): the pattern `*.cptv*`, the loop ends as soon as more than 30 % is free, the first match is removed -/
namespace TR.FactsExcess
open Facts

theorem excess_loop_shape :
    excessGlobExpr = "\"*.cptv*\"" ∧ excessStopTest = "percentageLeft > 30" ∧ excessVictimExpr = "matches[0]" := ⟨rfl, rfl, rfl⟩

end TR.FactsExcess
