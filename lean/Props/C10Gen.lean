import Proofs.C10Gen
import Props.C10

/-!
# C10 over every history of lives — kill at any system call, restart, clean-up, run again, any number of times

`Props.C10` proves C10 for ONE life of the daemon, from the empty directory.  Here the daemon runs (a valid
operation sequence), is killed at an arbitrary system call (any prefix of its calls, including all of them), is
restarted (start-up clean-up `Dir.cleanup`), runs again with fresh recording ids, is killed again, and so on.

* `c10_generations_every_instant` — at every instant of every life every `.cptv` name is a complete recording
  never written in place;
* `c10_generations_cleanup` — after any history of kills the next start-up leaves complete recordings only;
* `c10_generations_whole_history` — the two above for life number `k` of one valid history;
* `c10_generations_keeps_finished`, `c10_generations_never_lost` — a `.cptv` entry, once there, stays (same
  status) through the rest of its life, every kill, every clean-up and every later life.

Model: `TR.FS`.
-/
namespace TR.C10Gen
open TR.FS TR.C10

/-- one life of the daemon: the operations it performs and the system calls that actually happened before the
kill -/
structure Life where
  ops : List Op
  pre : List Sys

/-- lives are valid one after the other: each is a `ValidOps` sequence from no open recordings, with ids fresh
with respect to everything started in earlier lives (names are time stamps and time moves on; the recorder also
refuses a name that exists), and `pre` is a prefix of its system calls -/
inductive ValidLives : List Nat → List Life → Prop
  | nil {used} : ValidLives used []
  | cons {used l ls} : ValidOps [] used l.ops → l.pre <+: l.ops.flatMap Op.steps →
      ValidLives (startedIds l.ops ++ used) ls → ValidLives used (l :: ls)

/-- the ids used up after a list of lives (the `used` argument `ValidLives` reaches at its end) -/
def usedAfter (used : List Nat) : List Life → List Nat
  | [] => used
  | l :: ls => usedAfter (startedIds l.ops ++ used) ls

/-- the directory after a list of lives, each ended by a kill and followed by the start-up clean-up of the
next start -/
def afterLives (d : Dir) : List Life → Dir
  | [] => d
  | l :: ls => afterLives ((d.run l.pre).cleanup) ls

/-- `crash_safe` with ids: at every crash point of a valid operation sequence from a boundary state every
`.cptv` entry is complete and belongs to a recording started before or during this sequence -/
theorem crash_good {opn used : List Nat} {ops : List Op} (h : ValidOps opn used ops) (d : Dir)
    (hb : Boundary opn used d) (pre : List Sys) (hp : pre <+: ops.flatMap Op.steps) :
    Good (fun k => k ∈ startedIds ops ++ used) (d.run pre) :=
  valid_prefix_good h hb (fun _ => List.mem_append_right _) (fun _ => List.mem_append_left _) hp

/-- kill at any system call, then start-up clean-up: a boundary state again, with no open recording and the
ids of this life used up -/
theorem boundary_restart {used : List Nat} {l : Life} {d : Dir} (hb : Boundary [] used d)
    (hops : ValidOps [] used l.ops) (hpre : l.pre <+: l.ops.flatMap Op.steps) :
    Boundary [] (startedIds l.ops ++ used) (d.run l.pre).cleanup :=
  boundary_cleanup (crash_good hops d hb l.pre hpre)

/-- the boundary invariant survives every history of lives -/
theorem boundary_afterLives {used : List Nat} {lives : List Life} (h : ValidLives used lives) :
    ∀ (d : Dir), Boundary [] used d → Boundary [] (usedAfter used lives) (afterLives d lives) := by
  induction h with
  | nil => intro d hb; exact hb
  | cons hops hpre _ ih => intro d hb; exact ih _ (boundary_restart hb hops hpre)

/-- within one life a `.cptv` entry, once there, stays: from crash point `pre` to any later crash point
`pre ++ u` (a rename onto an existing `.cptv` name would raise `bad`, and `crash_safe` excludes that) -/
theorem life_keeps {opn used : List Nat} {ops : List Op} (h : ValidOps opn used ops) {d : Dir}
    (hb : Boundary opn used d) {pre u : List Sys} (hp : pre ++ u <+: ops.flatMap Op.steps)
    {p : Name × Status} (hmem : p ∈ (d.run pre).files) (hk : p.1.kind = Kind.F) :
    p ∈ (d.run (pre ++ u)).files := by
  rw [run_append]
  refine run_keeps (fun s hs => flat_noFLoss ops s (hp.subset (List.mem_append_right _ hs))) (fun v hv => ?_)
    hmem hk
  rw [← run_append]
  have hv' : pre ++ v <+: pre ++ u := (List.prefix_append_right_inj pre).2 hv
  exact (crash_safe h d hb _ (hv'.trans hp)).1

/-- (1) at EVERY instant of EVERY life every `.cptv` name is a complete recording never written in place: after
any valid history `lives` (each killed at any system call, each followed by start-up clean-up), at any crash
point `l.pre` of one more life `l` -/
theorem c10_generations_every_instant (lives : List Life) (h : ValidLives [] lives) (l : Life)
    (hl : ValidOps [] (usedAfter [] lives) l.ops) (hp : l.pre <+: l.ops.flatMap Op.steps) :
    ((afterLives {} lives).run l.pre).ok = true :=
  (crash_good hl _ (boundary_afterLives h {} boundary_init) l.pre hp).ok

/-- (2) after ANY history of kills the next start-up clean-up leaves complete recordings only -/
theorem c10_generations_cleanup (lives : List Life) (h : ValidLives [] lives) (l : Life)
    (hl : ValidOps [] (usedAfter [] lives) l.ops) (hp : l.pre <+: l.ops.flatMap Op.steps) :
    ∀ p ∈ ((afterLives {} lives).run l.pre).cleanup.files, p.1.kind = Kind.F ∧ p.2 = Status.complete :=
  (crash_good hl _ (boundary_afterLives h {} boundary_init) l.pre hp).cleanup

/-- (3) complete recordings are never lost by a kill or a restart: every `.cptv` entry of a boundary state is
still there, with the same status, after any valid history of lives -/
theorem c10_generations_keeps_finished {used : List Nat} {lives : List Life} (h : ValidLives used lives) :
    ∀ (d : Dir), Boundary [] used d → ∀ n s, (n, s) ∈ d.files → n.kind = Kind.F →
      (n, s) ∈ (afterLives d lives).files := by
  induction h with
  | nil => intro d _ n s hmem _; exact hmem
  | cons hops hpre _ ih =>
    intro d hb n s hmem hk
    refine ih _ (boundary_restart hb hops hpre) n s (mem_cleanup ?_ hk) hk
    exact life_keeps (pre := []) hops hb hpre hmem hk

theorem afterLives_append (d : Dir) (a b : List Life) :
    afterLives d (a ++ b) = afterLives (afterLives d a) b := by
  induction a generalizing d with
  | nil => rfl
  | cons l a ih => exact ih _

/-- a history is valid iff its first part is and the rest is valid after it -/
theorem validLives_append {used : List Nat} {a b : List Life} :
    ValidLives used (a ++ b) ↔ ValidLives used a ∧ ValidLives (usedAfter used a) b := by
  induction a generalizing used with
  | nil => exact ⟨fun h => ⟨.nil, h⟩, fun h => h.2⟩
  | cons l a ih =>
    constructor
    · intro h
      cases h with
      | cons hops hpre hrest => exact ⟨.cons hops hpre (ih.1 hrest).1, (ih.1 hrest).2⟩
    · rintro ⟨h1, h2⟩
      cases h1 with
      | cons hops hpre hrest => exact .cons hops hpre (ih.2 ⟨hrest, h2⟩)

/-- the hypotheses of (1) and (2) are exactly: `lives` followed by `l` is a valid history -/
theorem validLives_concat {lives : List Life} {l : Life} :
    ValidLives [] (lives ++ [l]) ↔
      ValidLives [] lives ∧ ValidOps [] (usedAfter [] lives) l.ops ∧ l.pre <+: l.ops.flatMap Op.steps := by
  rw [validLives_append]
  constructor
  · rintro ⟨h1, h2⟩
    cases h2 with
    | cons hops hpre _ => exact ⟨h1, hops, hpre⟩
  · rintro ⟨h1, hops, hpre⟩
    exact ⟨h1, .cons hops hpre .nil⟩

/-- (1'), (2') for a whole history: in life number `k` of a valid history, at every system call up to its
kill, the directory is ok, and cleaning it up leaves complete recordings only -/
theorem c10_generations_whole_history (history : List Life) (h : ValidLives [] history) (k : Nat)
    (hk : k < history.length) (pre : List Sys) (hp : pre <+: history[k].pre) :
    ((afterLives {} (history.take k)).run pre).ok = true ∧
      ∀ p ∈ ((afterLives {} (history.take k)).run pre).cleanup.files,
        p.1.kind = Kind.F ∧ p.2 = Status.complete := by
  have hsplit : history = history.take k ++ history[k] :: history.drop (k + 1) := by
    rw [← List.drop_eq_getElem_cons hk, List.take_append_drop]
  rw [hsplit, validLives_append] at h
  obtain ⟨h1, h2⟩ := h
  cases h2 with
  | cons hops hpre _ =>
    exact ⟨c10_generations_every_instant _ h1 ⟨history[k].ops, pre⟩ hops (hp.trans hpre),
      c10_generations_cleanup _ h1 ⟨history[k].ops, pre⟩ hops (hp.trans hpre)⟩

/-- (3') a `.cptv` entry present at ANY instant `pre` of ANY life `l` of a valid history (from the empty
directory) is still there, with the same status, at the end of the history — through the rest of that life, its
kill, and every later clean-up and life -/
theorem c10_generations_never_lost (lives : List Life) (l : Life) (later : List Life)
    (h : ValidLives [] (lives ++ l :: later)) (pre : List Sys) (hp : pre <+: l.pre)
    (n : Name) (s : Status) (hmem : (n, s) ∈ ((afterLives {} lives).run pre).files) (hk : n.kind = Kind.F) :
    (n, s) ∈ (afterLives {} (lives ++ l :: later)).files := by
  rw [validLives_append] at h
  obtain ⟨h1, h2⟩ := h
  cases h2 with
  | cons hops hpre hlater =>
    have hb := boundary_afterLives h1 {} boundary_init
    obtain ⟨u, hu⟩ := hp
    rw [afterLives_append]
    show (n, s) ∈ (afterLives ((afterLives {} lives).run l.pre).cleanup later).files
    refine c10_generations_keeps_finished hlater _ (boundary_restart hb hops hpre) n s (mem_cleanup ?_ hk) hk
    rw [← hu] at hpre ⊢
    exact life_keeps hops hb hpre hmem hk

/-- first life: recording 0 finished, recording 1 killed inside `stop` (after `write S`, `write T`: both `T`
and `S` of recording 1 are debris) -/
private def exLife1 : Life :=
  let ops := [.start 0, .write 0, .stop 0, .start 1, .write 1, .stop 1]
  ⟨ops, (ops.flatMap Op.steps).take 16⟩

/-- second life (fresh ids 2, 3): recording 2 finished, recording 3 killed between two writes -/
private def exLife2 : Life :=
  let ops := [.start 2, .write 2, .stop 2, .start 3, .write 3, .write 3]
  ⟨ops, (ops.flatMap Op.steps).take 14⟩

private def exLives : List Life := [exLife1, exLife2]

example : ValidLives [] exLives :=
  .cons
    (.start (by decide) <| .write (by decide) <| .stop (by decide) <| .start (by decide) <|
      .write (by decide) <| .stop (by decide) .nil)
    (List.take_prefix _ _) <|
  .cons
    (.start (by decide) <| .write (by decide) <| .stop (by decide) <| .start (by decide) <|
      .write (by decide) <| .write (by decide) .nil)
    (List.take_prefix _ _) .nil

/-- the kill points are strictly inside the lives -/
example : exLife1.pre.length = 16 ∧ (exLife1.ops.flatMap Op.steps).length = 20 := by decide +kernel
example : exLife2.pre.length = 14 ∧ (exLife2.ops.flatMap Op.steps).length = 15 := by decide +kernel
example : exLife1.pre.getLast? = some (.write ⟨1, .T⟩) := by decide +kernel

/-- the first crash state: one complete `.cptv`, `T` and `S` of recording 1 as debris -/
example : (Dir.run {} exLife1.pre).files =
    [(⟨1, .T⟩, .partialData), (⟨1, .S⟩, .partialData), (⟨0, .F⟩, .complete)] := by decide +kernel

/-- the restart removes the debris -/
example : (afterLives {} [exLife1]).files = [(⟨0, .F⟩, .complete)] := by decide +kernel

/-- the second crash state: both finished recordings, debris of recording 3 -/
example : ((afterLives {} [exLife1]).run exLife2.pre).files =
    [(⟨3, .T⟩, .partialData), (⟨3, .S⟩, .partialData), (⟨2, .F⟩, .complete), (⟨0, .F⟩, .complete)] := by
  decide +kernel

example : ((afterLives {} [exLife1]).run exLife2.pre).ok = true := by decide +kernel

/-- after both lives and the next start-up exactly the complete recordings remain -/
example : (afterLives {} exLives).files = [(⟨2, .F⟩, .complete), (⟨0, .F⟩, .complete)] := by decide +kernel

example : usedAfter [] exLives = [2, 3, 0, 1] := by decide +kernel

/-- `Dir.cleanup` keeps the `sealed` field, so a stale entry survives the restart; harmless, because `Boundary`
does not mention `sealed`: ids are fresh and `stop` seals its own `T` again before it renames -/
example : (afterLives {} [exLife1]).sealed = [0] := by decide +kernel

/-- a third life may not reuse an id: `ValidOps` refuses `start 0` after these lives … -/
example : ¬ ValidOps [] (usedAfter [] exLives) [.start 0] := by
  intro h
  cases h with
  | start hi _ => exact hi (by decide)

/-- … and reusing it would indeed overwrite a finished recording in place (the monitor says not ok) -/
example : ((afterLives {} exLives).run ([Op.start 0, .write 0, .stop 0].flatMap Op.steps)).ok = false := by
  decide +kernel

end TR.C10Gen
