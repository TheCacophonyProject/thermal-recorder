import Proofs.C14Daemons
import Props.C14
/-!
# C14Daemons — the camera daemon and the recorder agree on what crossed the socket

`Props.C14` is about the recorder's reader alone (any well-formed header, any list of valid
items).  Here the writer is the camera daemon's own loop (`TR.Leptond`, cmd/leptond/main.go):
header, blank line, then for each `NextFrame` call either the frame, or — when the camera timed
out or a restart was requested through the service — nothing until the camera has been
power-cycled, then the five bytes `clear`.

Headline (`c14_daemons_agree`): reading the daemon's stream, the recorder gets exactly the camera
description the daemon sent, consumes nothing beyond the blank line, and then sees exactly the
frames the camera delivered (minus those dropped by a requested restart), in order, with exactly
one `clear` per camera restart, ending cleanly at a frame boundary.

Quantifiers: every list of header lines satisfying `IsHeaderLine` (what the YAML encoder emits),
every frame size `N ≥ 5`, every camera history `evs` in which every *delivered* frame
(`CamEv.frame b`) has exactly `N` bytes and does not begin with the bytes `clear`
(`ValidItem N (.frame b)`; nothing is assumed about frames dropped by `resetRequested`), every
fuel larger than the number of events.

The operational transcription of the Go loop (`Leptond.step`, `Leptond.run`, `Leptond.runMain`)
writes exactly `Leptond.stream` (`c14_daemons_operational`).

Derived from `c14_header_exact`, `c14_frames_roundtrip`, `c14_frames_truncated`,
`c14_header_truncated`; none of them is re-proved.
-/
namespace TR.C14Daemons
open TR.Socket TR.C14 TR.Leptond

/-- the hypothesis on the camera history: every frame that reaches the socket is a valid item -/
def ValidHistory (N : Nat) (evs : List CamEv) : Prop :=
  ∀ b, CamEv.frame b ∈ evs → ValidItem N (.frame b)

theorem blankLine_isBlank : IsBlankLine Leptond.blankLine := ⟨0, rfl⟩

/-- everything the daemon sends is a valid item -/
theorem sent_valid {N : Nat} {evs : List CamEv} (hv : ValidHistory N evs) :
    ∀ i ∈ sent evs, ValidItem N i := by
  intro i hi
  obtain ⟨ev, hev, rfl⟩ := mem_sent hi
  cases ev with
  | frame b => exact hv b hev
  | _ => exact True.intro

theorem validHistory_take {N : Nat} {evs : List CamEv} (hv : ValidHistory N evs) (k : Nat) :
    ValidHistory N (evs.take k) :=
  fun b hb => hv b (List.mem_of_mem_take hb)

/-- the operational loop (`step`/`run`, a transcription of `runMain`/`runCamera`) writes exactly
the declarative `stream`; from any state, `run` writes the `clear` of the restart under way (if
any) and then one item per event -/
theorem c14_daemons_operational (lines : List (List Nat)) (evs : List CamEv) :
    Leptond.runMain lines evs = Leptond.stream lines evs ∧
    ∀ s, Leptond.run s evs = Leptond.pending s ++ encode (Leptond.sent evs) :=
  ⟨run_eq_stream lines evs, fun s => run_eq s evs⟩

/-- the header part: the recorder reads exactly the header text, and what is left unread is
exactly the encoded items -/
theorem c14_daemons_header (lines : List (List Nat)) (hl : ∀ l ∈ lines, IsHeaderLine l)
    (evs : List CamEv) :
    readHeader (Leptond.stream lines evs) = some (lines.flatten, encode (Leptond.sent evs)) :=
  c14_header_exact lines Leptond.blankLine (encode (Leptond.sent evs)) hl blankLine_isBlank

/-- **Headline.**  The recorder recovers exactly what the camera daemon delivered. -/
theorem c14_daemons_agree (lines : List (List Nat)) (hl : ∀ l ∈ lines, IsHeaderLine l)
    (N : Nat) (hN : 5 ≤ N) (evs : List CamEv) (hv : ValidHistory N evs)
    (fuel : Nat) (hf : evs.length < fuel) :
    ∃ rest, readHeader (Leptond.stream lines evs) = some (lines.flatten, rest) ∧
            parseFrames N fuel rest = (Leptond.sent evs, Ending.eofAtBoundary) :=
  ⟨encode (Leptond.sent evs), c14_daemons_header lines hl evs,
    c14_frames_roundtrip N hN (Leptond.sent evs) (sent_valid hv) fuel
      (by rw [sent_length]; exact hf)⟩

/-- the recorder's connection handler as one function: header text, items, how the loop ended;
`none` = the header could not be read -/
def recorderReads (N fuel : Nat) (bytes : List Nat) : Option (List Nat × List Item × Ending) :=
  match readHeader bytes with
  | none => none
  | some (text, rest) => some (text, parseFrames N fuel rest)

/-- the headline as one equation -/
theorem c14_daemons_agree_reads (lines : List (List Nat)) (hl : ∀ l ∈ lines, IsHeaderLine l)
    (N : Nat) (hN : 5 ≤ N) (evs : List CamEv) (hv : ValidHistory N evs)
    (fuel : Nat) (hf : evs.length < fuel) :
    recorderReads N fuel (Leptond.stream lines evs)
      = some (lines.flatten, Leptond.sent evs, Ending.eofAtBoundary) := by
  obtain ⟨rest, h1, h2⟩ := c14_daemons_agree lines hl N hN evs hv fuel hf
  simp only [recorderReads, h1, h2]

/-- (a) the recorder sees exactly one `clear` per camera restart: as many as there were
`timeout` events plus `resetRequested` events -/
theorem c14_daemons_clears (lines : List (List Nat)) (hl : ∀ l ∈ lines, IsHeaderLine l)
    (N : Nat) (hN : 5 ≤ N) (evs : List CamEv) (hv : ValidHistory N evs)
    (fuel : Nat) (hf : evs.length < fuel) :
    ∃ rest, readHeader (Leptond.stream lines evs) = some (lines.flatten, rest) ∧
      (parseFrames N fuel rest).1.count Item.clear
        = evs.countP CamEv.isTimeout + evs.countP CamEv.isResetRequested := by
  obtain ⟨rest, h1, h2⟩ := c14_daemons_agree lines hl N hN evs hv fuel hf
  exact ⟨rest, h1, by rw [h2]; exact count_clear_sent evs⟩

/-- (b) the frames the recorder sees are the payloads of the `frame` events, in order: none lost,
none duplicated, none invented, and the frames dropped by a requested restart do not appear -/
theorem c14_daemons_frames (lines : List (List Nat)) (hl : ∀ l ∈ lines, IsHeaderLine l)
    (N : Nat) (hN : 5 ≤ N) (evs : List CamEv) (hv : ValidHistory N evs)
    (fuel : Nat) (hf : evs.length < fuel) :
    ∃ rest, readHeader (Leptond.stream lines evs) = some (lines.flatten, rest) ∧
      (parseFrames N fuel rest).1.filterMap Leptond.itemFrame?
        = evs.filterMap CamEv.delivered? := by
  obtain ⟨rest, h1, h2⟩ := c14_daemons_agree lines hl N hN evs hv fuel hf
  exact ⟨rest, h1, by rw [h2]; exact frames_sent evs⟩

/-! ## the connection dies part-way -/

/-- what the daemon had written when it died inside the item of event number `k`: the complete
stream of the first `k` events, then `part` -/
theorem cut_is_prefix (lines : List (List Nat)) (evs : List CamEv) (k : Nat) (hk : k < evs.length)
    (part : List Nat) (hp : part <+: encodeItem (evs[k]).item) :
    Leptond.stream lines (evs.take k) ++ part <+: Leptond.stream lines evs := by
  have hsplit : evs = evs.take k ++ evs[k] :: evs.drop (k + 1) := by
    rw [List.getElem_cons_drop, List.take_append_drop]
  have e : Leptond.stream lines evs
      = Leptond.stream lines (evs.take k)
        ++ (encodeItem (evs[k]).item ++ encode (Leptond.sent (evs.drop (k + 1)))) := by
    conv => lhs; rw [hsplit]
    simp only [Leptond.stream, sent_append, sent_cons, encode_append, encode_cons,
      List.append_assoc]
  rw [e]
  exact (List.prefix_append_right_inj _).2 (hp.trans (List.prefix_append _ _))

/-- (c) the connection dies inside an item (a non-empty proper part of the item of event `k` got
through): the recorder has read the header, has delivered exactly the items of the first `k`
events — a prefix of `sent evs` — and reports `truncated` -/
theorem c14_daemons_truncated (lines : List (List Nat)) (hl : ∀ l ∈ lines, IsHeaderLine l)
    (N : Nat) (hN : 5 ≤ N) (evs : List CamEv) (hv : ValidHistory N evs)
    (k : Nat) (hk : k < evs.length) (part : List Nat)
    (hp : part <+: encodeItem (evs[k]).item) (hne : part ≠ [])
    (hne' : part ≠ encodeItem (evs[k]).item)
    (fuel : Nat) (hf : k + 1 < fuel) :
    Leptond.stream lines (evs.take k) ++ part <+: Leptond.stream lines evs ∧
    Leptond.sent (evs.take k) <+: Leptond.sent evs ∧
    ∃ rest, readHeader (Leptond.stream lines (evs.take k) ++ part) = some (lines.flatten, rest) ∧
      parseFrames N fuel rest = (Leptond.sent (evs.take k), Ending.truncated) := by
  refine ⟨cut_is_prefix lines evs k hk part hp, sent_take_prefix evs k,
    encode (Leptond.sent (evs.take k)) ++ part, ?_, ?_⟩
  · have e : Leptond.stream lines (evs.take k) ++ part
        = lines.flatten ++ Leptond.blankLine ++ (encode (Leptond.sent (evs.take k)) ++ part) := by
      simp only [Leptond.stream, List.append_assoc]
    rw [e]
    exact c14_header_exact lines Leptond.blankLine _ hl blankLine_isBlank
  · have hlast : ValidItem N (evs[k]).item :=
      sent_valid hv _ (by simp only [Leptond.sent]; exact List.mem_map_of_mem (List.getElem_mem hk))
    refine c14_frames_truncated N hN (Leptond.sent (evs.take k))
      (sent_valid (validHistory_take hv k)) (evs[k]).item hlast part hp hne hne' fuel ?_
    rw [sent_length, List.length_take]
    omega

/-- (c′) every way the connection can die: for EVERY prefix `pre` of the daemon's stream, either
the cut is inside the header and the recorder reports an error (no partial camera description),
or the recorder has read the full header and delivered exactly the items of the first `k` events
for some `k` — never a partial, shifted or invented frame — and the ending says whether the cut
was at an item boundary -/
theorem c14_daemons_any_cut (lines : List (List Nat)) (hl : ∀ l ∈ lines, IsHeaderLine l)
    (N : Nat) (hN : 5 ≤ N) (evs : List CamEv) (hv : ValidHistory N evs)
    (pre : List Nat) (hpre : pre <+: Leptond.stream lines evs)
    (fuel : Nat) (hf : evs.length + 1 < fuel) :
    (pre.length < (Leptond.sendCameraSpecs lines).length ∧ readHeader pre = none) ∨
    ∃ k rest e, k ≤ evs.length ∧
      readHeader pre = some (lines.flatten, rest) ∧
      parseFrames N fuel rest = (Leptond.sent (evs.take k), e) ∧
      (e = Ending.eofAtBoundary ↔ pre = Leptond.stream lines (evs.take k)) := by
  rcases prefix_stream_cases lines evs pre hpre with ⟨h1, hne⟩ | ⟨k, hk, rfl | ⟨hk', part, rfl, hp, hne, hne'⟩⟩
  · -- inside the header: `c14_header_truncated`
    refine .inl ⟨Nat.lt_of_le_of_ne h1.length_le fun h => hne (h1.eq_of_length h),
      c14_header_truncated lines Leptond.blankLine hl blankLine_isBlank pre h1 hne⟩
  · -- at an item boundary: the headline for the first `k` events
    obtain ⟨rest, hh, hf'⟩ := c14_daemons_agree lines hl N hN (evs.take k) (validHistory_take hv k) fuel
      (by rw [List.length_take]; omega)
    exact .inr ⟨k, rest, _, hk, hh, hf', iff_of_true rfl rfl⟩
  · -- inside the item of event `k`: `c14_daemons_truncated`
    obtain ⟨_, _, rest, hh, hf'⟩ := c14_daemons_truncated lines hl N hN evs hv k hk' part hp hne hne' fuel
      (by omega)
    exact .inr ⟨k, rest, _, hk, hh, hf',
      iff_of_false Ending.noConfusion fun e => hne (List.append_right_eq_self.1 e)⟩

/-- header "a: 1\n" "b\n" -/
def exHeader : List (List Nat) := [[97, 58, 32, 49, 10], [98, 10]]

/-- frame, frame, NextFrame error, restart requested (that frame is dropped), frame — size 6 -/
def exEvs : List CamEv :=
  [.frame [1, 2, 3, 4, 5, 6], .frame [0, 99, 108, 101, 97, 114], .timeout,
   .resetRequested [7, 7, 7, 7, 7, 7], .frame [11, 12, 13, 14, 15, 16]]

theorem exHeader_ok : ∀ l ∈ exHeader, IsHeaderLine l := exLines_ok

theorem exEvs_ok : ValidHistory 6 exEvs := by
  intro b hb
  simp only [exEvs, List.mem_cons, List.not_mem_nil, or_false, CamEv.frame.injEq,
    reduceCtorEq, false_or, or_false] at hb
  rcases hb with rfl | rfl | rfl <;> exact ⟨rfl, by decide⟩

/-- what the daemon sends for that history: the dropped frame is absent, each restart is one
`clear` -/
example :
    Leptond.sent exEvs
      = [.frame [1, 2, 3, 4, 5, 6], .frame [0, 99, 108, 101, 97, 114], .clear, .clear,
         .frame [11, 12, 13, 14, 15, 16]] := by
  decide +kernel

/-- the bytes on the wire, and the operational loop writes the same bytes -/
example :
    Leptond.stream exHeader exEvs
      = [97, 58, 32, 49, 10, 98, 10] ++ [10]
        ++ [1, 2, 3, 4, 5, 6, 0, 99, 108, 101, 97, 114, 99, 108, 101, 97, 114,
            99, 108, 101, 97, 114, 11, 12, 13, 14, 15, 16] ∧
    Leptond.runMain exHeader exEvs = Leptond.stream exHeader exEvs := by
  decide +kernel

/-- the state machine on the same history, event by event: state after the event and the bytes
the event wrote (the `clear` of a restart is written on the way to the next `NextFrame`) -/
example :
    Leptond.step .inCamera (.frame [1, 2, 3, 4, 5, 6]) = (.inCamera, [1, 2, 3, 4, 5, 6]) ∧
    Leptond.step .inCamera .timeout = (.restarting, []) ∧
    Leptond.step .restarting (.resetRequested [7, 7, 7, 7, 7, 7])
      = (.restarting, [99, 108, 101, 97, 114]) ∧
    Leptond.step .restarting (.frame [11, 12, 13, 14, 15, 16])
      = (.inCamera, [99, 108, 101, 97, 114, 11, 12, 13, 14, 15, 16]) ∧
    Leptond.run .restarting [] = [99, 108, 101, 97, 114] := by
  decide +kernel

/-- the recorder on that stream (the hypotheses of the headline are satisfiable; `readHeader`
is defined by well-founded recursion, so its value comes from the theorem, the frame loop's by
evaluation) -/
example :
    readHeader (Leptond.stream exHeader exEvs)
      = some ([97, 58, 32, 49, 10, 98, 10],
              [1, 2, 3, 4, 5, 6, 0, 99, 108, 101, 97, 114, 99, 108, 101, 97, 114,
               99, 108, 101, 97, 114, 11, 12, 13, 14, 15, 16]) ∧
    parseFrames 6 6 [1, 2, 3, 4, 5, 6, 0, 99, 108, 101, 97, 114, 99, 108, 101, 97, 114,
                     99, 108, 101, 97, 114, 11, 12, 13, 14, 15, 16]
      = ([.frame [1, 2, 3, 4, 5, 6], .frame [0, 99, 108, 101, 97, 114], .clear, .clear,
          .frame [11, 12, 13, 14, 15, 16]], Ending.eofAtBoundary) ∧
    recorderReads 6 6 (Leptond.stream exHeader exEvs)
      = some ([97, 58, 32, 49, 10, 98, 10], Leptond.sent exEvs, Ending.eofAtBoundary) :=
  ⟨c14_daemons_header exHeader exHeader_ok exEvs, by decide +kernel,
    c14_daemons_agree_reads exHeader exHeader_ok 6 (by decide) exEvs exEvs_ok 6 (by decide)⟩

/-- corollaries (a) and (b) on the example: two restarts, two `clear`s; three delivered frames -/
example :
    (Leptond.sent exEvs).count Item.clear = 2 ∧
    exEvs.countP CamEv.isTimeout + exEvs.countP CamEv.isResetRequested = 2 ∧
    (Leptond.sent exEvs).filterMap Leptond.itemFrame?
      = [[1, 2, 3, 4, 5, 6], [0, 99, 108, 101, 97, 114], [11, 12, 13, 14, 15, 16]] ∧
    exEvs.filterMap CamEv.delivered?
      = [[1, 2, 3, 4, 5, 6], [0, 99, 108, 101, 97, 114], [11, 12, 13, 14, 15, 16]] := by
  decide +kernel

/-- (c) on the example: the connection dies three bytes into the second `clear` (event 3): the
two frames and the first `clear` are delivered, then `truncated` -/
example :
    parseFrames 6 6 ([1, 2, 3, 4, 5, 6, 0, 99, 108, 101, 97, 114, 99, 108, 101, 97, 114]
        ++ [99, 108, 101])
      = (Leptond.sent (exEvs.take 3), Ending.truncated) := by
  decide +kernel

/-- why "a delivered frame does not begin with the marker" is needed: a camera frame whose first
five bytes happen to be `clear` is sent as it is, and the recorder reads a reset, then a frame that was never sent (the sixth byte
followed by the first five of the next frame), then `truncated` — the frame is lost and so is the
alignment of everything after it.  Nothing in
the daemon prevents this; the wire format cannot express such a frame. -/
example :
    Leptond.sent [.frame [99, 108, 101, 97, 114, 7], .frame [1, 2, 3, 4, 5, 6]]
      = [.frame [99, 108, 101, 97, 114, 7], .frame [1, 2, 3, 4, 5, 6]] ∧
    parseFrames 6 3
        (encode (Leptond.sent [.frame [99, 108, 101, 97, 114, 7], .frame [1, 2, 3, 4, 5, 6]]))
      = ([.clear, .frame [7, 1, 2, 3, 4, 5]], Ending.truncated) ∧
    ¬ ValidHistory 6 [.frame [99, 108, 101, 97, 114, 7], .frame [1, 2, 3, 4, 5, 6]] := by
  refine ⟨by decide, by decide, ?_⟩
  intro h
  exact (h [99, 108, 101, 97, 114, 7] (by simp)).2 (by decide)

/-- nothing is assumed about a frame dropped by a requested restart: even one that begins with
`clear` and has the wrong size does no harm, because it never reaches the socket -/
example :
    ValidHistory 6 [.resetRequested [99, 108, 101, 97, 114], .frame [1, 2, 3, 4, 5, 6]] ∧
    parseFrames 6 3
        (encode (Leptond.sent [.resetRequested [99, 108, 101, 97, 114], .frame [1, 2, 3, 4, 5, 6]]))
      = ([.clear, .frame [1, 2, 3, 4, 5, 6]], Ending.eofAtBoundary) := by
  refine ⟨?_, by decide⟩
  intro b hb
  simp only [List.mem_cons, List.not_mem_nil, or_false, reduceCtorEq, false_or,
    CamEv.frame.injEq] at hb
  subst hb
  exact ⟨rfl, by decide⟩

end TR.C14Daemons
