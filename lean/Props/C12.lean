import Proofs.ProcC12
/-!
# C12 — sinks see writes only inside start..stop; faults never crash the pipeline

Quantifier: every configuration with ring capacity ≥ 1 (continuous recorder on or off), every
list of events over {valid frame with / without motion, bad frame, reset, test-recording
request}, every placement of failures on the individual sink calls (the `Faults` record carried
by each event).  `monC12` is the executable protocol monitor of `TR.ProcMon` (start never while
open, write only while open, no `Obs.panic`); the proof is the invariant of
`Proofs.ProcC12` (`Good`: ring invariant; `Rel12`: monitor state = model state).
-/
namespace TR.C12

/-- every sink sees a well-formed call sequence and nothing panics, for every event list and
every fault placement -/
theorem c12_protocol (c : PCfg) (hK : 0 < c.K) (evs : List Ev) :
    monC12 (PState.trace c (PState.init c) evs) = [] :=
  c12_protocol_all c hK evs

/-- recovery: from every reachable state, `max c.trig 1` consecutive motion frames with all gates
open and no faults lead to a successful frame write on the motion sink -/
theorem c12_recovery (c : PCfg) (hK : 0 < c.K) (evs : List Ev) :
    ∃ id, Obs.call .motion (.write id) true ∈
      (PState.trace c (PState.after c (PState.init c) evs)
        (List.replicate (max c.trig 1) (Ev.frame true {}))).flatMap (·.obs) :=
  have _ := hK
  c12_recovery_all c (PState.after c (PState.init c) evs)

/-- non-vacuity: the monitor rejects a write on a closed sink, a start on an open one and a panic;
and a concrete run of the model (trigger, test request, bad frame, re-trigger) opens all three
sinks, so the accepted traces are not the empty ones -/
example :
    monC12 [⟨.frame false {}, [.call .const (.write 0) true]⟩] ≠ [] ∧
    monC12 [⟨.frame true {}, [.call .motion .start true, .call .motion .start true]⟩] ≠ [] ∧
    monC12 [⟨.frame true {}, [.panic]⟩] ≠ [] ∧
    (let c : PCfg := ⟨3, 2, 4, 1, true, 1⟩
     let obs := (PState.trace c (PState.init c)
        [.frame false {}, .testReq, .frame true {}, .bad {}, .frame true {}]).flatMap (·.obs)
     Obs.call .motion .start true ∈ obs ∧ Obs.call .const .start true ∈ obs ∧
     Obs.call .test .start true ∈ obs ∧ Obs.call .motion (.write 0) true ∈ obs) := by
  decide +kernel

end TR.C12
