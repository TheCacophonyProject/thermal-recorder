import Props.C06
import Props.C11Thr
import Proofs.C06Spec
/-!
# C06 (and the throttle's C11), de-monitored — acceptance by `monC06` / `monC11Thr` IS a plain statement
about the trace

`Props.C06` states C06 through the executable monitor `monC06 minLen` (a fold of the state machine
`M6.step`), `Props.C11Thr` states "deferred starts carry the arguments of the latest start" through
`monC11Thr` (a fold of `M11.step`).  Here acceptance by each monitor is shown equivalent to statements whose
definitions (`Proofs.C06Spec`) do not mention it, so neither monitor has to be trusted.  `tr : List TStep` is any trace (the model's or one recorded from the
real code); `tr[i].req` is the upstream request of step `i`, `tr[i].obs` what was observed during it.

(A) C06
* `baseOf obs`, `baseCalls tr` — the base-recorder calls (`bStart/bWrite/bStop`; not `throttled`, not `ret`)
  of one step / of the whole trace, in order;
* `baseOpenAfter cs` — a base file is open after the calls `cs`.  A fold (a successful `bStart` opens, a
  `bStop` closes whatever its outcome, nothing else matters — in particular a FAILED `bStart` opens nothing),
  and in words (`baseOpenAfter_spec`): some successful `bStart` is followed by no `bStop`;
* `framesInFile cs` — the number of `bWrite`s (successful or not) since the last successful `bStart`
  (`framesInFile_spec`);
* `BasePaired tr` — in `baseCalls tr`, position by position: a `bWrite` and a `bStop` only when the calls
  before it leave a file open; a `bStart` (successful or not) only when they leave none open;
* `CutsLongEnough minLen tr` — whenever a `bStop` is observed at position `j` of a `.write` step `i`:
  `minLen ≤ framesInFile (baseCalls (tr.take i) ++ baseOf (tr[i].obs.take j))`;
* `EventsExact tr` — every step with a `SuppressedStart` (a `.start` request, no `bStart` observed) or a `Cut`
  (a `.write` request, a `bStop` observed) contains exactly one `throttled`; every other step contains none;
* `TransparentUntilThrottled tr` — if no step of `tr.take (i+1)` contains `throttled` then
  `tr[i].obs = forwarded tr[i].req` (`[bStart tag ok, ret ok]`, `[bWrite id wok, ret wok]`, `[bStop ok, ret ok]`);
* `StopForwarding tr` — at a `.stop` step `i`: a `bStop` is observed iff `baseOpenAfter (baseCalls (tr.take i))`.

`monC06_iff`: for EVERY trace the monitor reports nothing iff the five statements hold (`C06Spec`); the
corners follow the monitor and are listed below.
`c06_spec`: hence the model's traces satisfy them, for every bucket, minimum length, request list, clock and
base-failure pattern.  `cut_file_has_minLen` combines pairing and clean cuts into the user-facing sentence:
the base calls before a cut split as `pre ++ bStart tag true :: post` with neither a `bStop` nor a further
successful `bStart` in `post`, and `post` contains at least `minLen` `bWrite`s.

(B) C11 through the throttle
* `latestTag tr i` — the tag of the last `.start` REQUEST among steps `0..i` (`latestTag_spec`);
* `FreshTags tr` — every `bStart tag _` observed at step `i` has `latestTag tr i = some tag`;
* `monC11Thr_iff`, `c11thr_fresh_tags`.

Corners (all as in the monitors):
* `CutsLongEnough` counts `bWrite`s since the last SUCCESSFUL `bStart` among all base calls before the
  `bStop`, whether or not a file is open there (a `bStop` does not reset the count); when `BasePaired` holds
  a file is open at every `bStop`, so the count is the content of the file being closed
  (`cut_file_has_minLen`).  Failed `bWrite`s count as frames.  Every `bStop` inside a `.write` step is checked.
* `bStop`s observed in `.start` steps are constrained by pairing only; `bStart`s in `.stop` steps likewise.
* Transparency constrains nothing from the first `throttled` on; `ret` values are constrained only by
  transparency.
* A `bStart` observed before any `.start` request violates `FreshTags` (`latestTag = none`).
-/
namespace TR.C06Spec

/-- **The C06 monitor accepts exactly the traces that satisfy the five plain statements.** -/
theorem monC06_iff (minLen : Nat) (tr : List TStep) :
    monC06 minLen tr = [] ↔
      (BasePaired tr ∧ CutsLongEnough minLen tr ∧ EventsExact tr ∧ TransparentUntilThrottled tr ∧
        StopForwarding tr) := by
  rw [monC06, fold_fails, basePaired_iff, cutsLongEnough_iff, eventsExact_iff, transparent_iff,
    stopForwarding_iff]
  exact and_iff_right rfl

/-- soundness alone: what an accepted trace looks like -/
theorem monC06_sound (minLen : Nat) (tr : List TStep) (hacc : monC06 minLen tr = []) :
    BasePaired tr ∧ CutsLongEnough minLen tr ∧ EventsExact tr ∧ TransparentUntilThrottled tr ∧
      StopForwarding tr :=
  (monC06_iff minLen tr).mp hacc

/-- completeness alone: the monitor raises no false alarm -/
theorem monC06_complete (minLen : Nat) (tr : List TStep) (h1 : BasePaired tr) (h2 : CutsLongEnough minLen tr)
    (h3 : EventsExact tr) (h4 : TransparentUntilThrottled tr) (h5 : StopForwarding tr) :
    monC06 minLen tr = [] :=
  (monC06_iff minLen tr).mpr ⟨h1, h2, h3, h4, h5⟩

/-- **`baseOpenAfter` in words**: a base file is open after `cs` iff `cs` contains a successful `bStart`
after which there is no `bStop` (successful or not) -/
theorem baseOpenAfter_spec (cs : List TObs) :
    baseOpenAfter cs = true ↔
      ∃ pre tag post, cs = pre ++ TObs.bStart tag true :: post ∧ ∀ ok, TObs.bStop ok ∉ post :=
  baseOpenAfter_iff cs

/-- **`framesInFile` in words**: if `cs = pre ++ bStart tag true :: post` with no successful `bStart` in
`post`, it is the number of `bWrite`s in `post`; with no successful `bStart` at all, the number of all
`bWrite`s -/
theorem framesInFile_words (cs : List TObs) :
    (∀ pre tag post, cs = pre ++ TObs.bStart tag true :: post → (∀ tag', TObs.bStart tag' true ∉ post) →
      framesInFile cs = writeCount post) ∧
    ((∀ tag, TObs.bStart tag true ∉ cs) → framesInFile cs = writeCount cs) :=
  framesInFile_spec cs

/-- the state the monitor keeps is (`baseOpenAfter`, `framesInFile`) of the base calls so far, and "some
step so far emitted `throttled`" -/
theorem monitor_state_is (minLen : Nat) (tr : List TStep) :
    (tr.foldl (M6.step minLen) {}).baseOpen = baseOpenAfter (baseCalls tr) ∧
    (tr.foldl (M6.step minLen) {}).sinceStart = framesInFile (baseCalls tr) ∧
    ((tr.foldl (M6.step minLen) {}).throttledSoFar = true ↔ ∃ s ∈ tr, TObs.throttled ∈ s.obs) := by
  obtain ⟨ho, hn, ht⟩ := fold_state minLen tr {}
  rw [ho, hn, ht, foldl_perStep nextOpen nextOpen_quiet, foldl_perStep nextCount nextCount_quiet, foldl_stepThr]
  exact ⟨rfl, rfl, or_iff_right Bool.false_ne_true⟩

/-- `BasePaired`, per step `i` and position `j` in its observations: with `cs` the base calls made before
that observation, a `bWrite`/`bStop` needs `baseOpenAfter cs`, a `bStart` needs `¬ baseOpenAfter cs` -/
theorem basePaired_at {tr : List TStep} (hp : BasePaired tr) (i : Nat) (h : i < tr.length) (j : Nat)
    (hj : j < tr[i].obs.length) :
    match tr[i].obs[j] with
    | .bWrite _ _ => baseOpenAfter (baseCalls (tr.take i) ++ baseOf (tr[i].obs.take j)) = true
    | .bStop _ => baseOpenAfter (baseCalls (tr.take i) ++ baseOf (tr[i].obs.take j)) = true
    | .bStart _ _ => baseOpenAfter (baseCalls (tr.take i) ++ baseOf (tr[i].obs.take j)) = false
    | _ => True :=
  (match_iff_okWhen _ _).mpr ((basePaired_nested tr).mp hp i h j hj)

/-- **A throttle-cut file holds at least `minLen` frames.**  In a trace with paired base calls and clean
cuts, at every `bStop` observed during a `.write` request the base calls made before it split as
`pre ++ bStart tag true :: post`, where `post` contains no `bStop`, no further successful `bStart`, and at
least `minLen` `bWrite`s. -/
theorem cut_file_has_minLen {minLen : Nat} {tr : List TStep} (hp : BasePaired tr)
    (hc : CutsLongEnough minLen tr) (i : Nat) (h : i < tr.length) (hw : isWriteReq tr[i].req = true)
    (j : Nat) (hj : j < tr[i].obs.length) (ok : Bool) (hs : tr[i].obs[j] = TObs.bStop ok) :
    ∃ pre tag post,
      baseCalls (tr.take i) ++ baseOf (tr[i].obs.take j) = pre ++ TObs.bStart tag true :: post ∧
      (∀ ok', TObs.bStop ok' ∉ post) ∧ (∀ tag', TObs.bStart tag' true ∉ post) ∧ minLen ≤ writeCount post := by
  have hopen := basePaired_at hp i h j hj
  rw [hs] at hopen
  obtain ⟨pre, tag, post, he, h1, h2⟩ := open_split _ hopen
  refine ⟨pre, tag, post, he, h1, h2, ?_⟩
  have := hc i h hw j hj ⟨ok, hs⟩
  rw [(framesInFile_spec _).1 pre tag post he h2] at this
  exact this

/-- `EventsExact`, spelled out: never more than one `throttled` in a step, none at all in a `.stop` step -/
theorem events_at_most_one {tr : List TStep} (he : EventsExact tr) (s : TStep) (hs : s ∈ tr) :
    s.obs.count TObs.throttled ≤ 1 ∧ ((∃ ok, s.req = TReq.stop ok) → TObs.throttled ∉ s.obs) := by
  obtain ⟨h1, h0⟩ := he s hs
  constructor
  · by_cases hi : SuppressedStart s ∨ Cut s
    · rw [h1 hi]; exact Nat.le_refl 1
    · rw [h0 hi]; exact Nat.zero_le 1
  · rintro ⟨ok, hr⟩ hm
    have hi : ¬ (SuppressedStart s ∨ Cut s) := by
      rintro (⟨⟨_, _, _, e⟩, _⟩ | ⟨⟨_, _, _, _, _, e⟩, _⟩) <;> rw [hr] at e <;> cases e
    have := h0 hi
    have hpos : 0 < s.obs.count TObs.throttled := List.count_pos_iff.mpr hm
    omega

/-- **C06 as a plain specification.**  For every bucket (capacity, quantum), every minimum recording
length, every upstream request list obeying the recorder protocol (`utrace` drops the requests the protocol
forbids), with any clock and any pattern of base-recorder failures, the throttle's trace has paired base
calls, clean cuts of at least `minLen` frames, exactly one `throttled` per suppressed start or cut and none
otherwise, is transparent until the first `throttled`, and forwards a stop iff a base file is open.
(`c06_monitor` carries the documentary hypotheses `0 < cap`, `0 < q`; they are not needed.) -/
theorem c06_spec (cap q minLen : Nat) (reqs : List TReq) :
    BasePaired (utrace { t := TState.init cap q minLen } reqs) ∧
    CutsLongEnough minLen (utrace { t := TState.init cap q minLen } reqs) ∧
    EventsExact (utrace { t := TState.init cap q minLen } reqs) ∧
    TransparentUntilThrottled (utrace { t := TState.init cap q minLen } reqs) ∧
    StopForwarding (utrace { t := TState.init cap q minLen } reqs) :=
  (monC06_iff _ _).mp (C06.c06_monitor_any_bucket cap q minLen reqs)

/-- the same from `c06_monitor`, with its hypotheses -/
theorem c06_spec' (cap q minLen : Nat) (hc : 0 < cap) (hq : 0 < q) (reqs : List TReq) :
    C06Spec minLen (utrace { t := TState.init cap q minLen } reqs) :=
  (monC06_iff _ _).mp (C06.c06_monitor cap q minLen hc hq reqs)

/-- **The throttle's C11 monitor accepts exactly the traces in which every base start carries the tag of the
latest upstream start request at or before its step.** -/
theorem monC11Thr_iff (tr : List TStep) :
    monC11Thr tr = [] ↔
      ∀ i (h : i < tr.length), ∀ tag ok, TObs.bStart tag ok ∈ tr[i].obs → latestTag tr i = some tag := by
  rw [monC11Thr, (m11_fold _ _).2, ← freshTags_iff]
  exact and_iff_right rfl

theorem monC11Thr_sound (tr : List TStep) (hacc : monC11Thr tr = []) : FreshTags tr :=
  (monC11Thr_iff tr).mp hacc

theorem monC11Thr_complete (tr : List TStep) (h : FreshTags tr) : monC11Thr tr = [] :=
  (monC11Thr_iff tr).mpr h

/-- **`latestTag` in words**: `latestTag tr i = some tag` iff the steps `0..i` split as `pre ++ s :: post`
with `s` a `.start` request carrying `tag` and no `.start` request in `post` -/
theorem latestTag_spec (tr : List TStep) (i tag : Nat) :
    latestTag tr i = some tag ↔
      ∃ pre s post, tr.take (i + 1) = pre ++ s :: post ∧ (∃ t ok, s.req = TReq.start t tag ok) ∧
        ∀ x ∈ post, ∀ t tag' ok, x.req ≠ TReq.start t tag' ok := by
  have hs : ∀ s : TStep, startTag? s.req = some tag ↔ ∃ t ok, s.req = TReq.start t tag ok := by
    intro s; cases s.req <;> simp [startTag?]
  have hn : ∀ x : TStep, startTag? x.req = none ↔ ∀ t tag' ok, x.req ≠ TReq.start t tag' ok := by
    intro x; cases x.req <;> simp [startTag?]
  simp only [latestTag, getLast?_filterMap_iff, hs, hn]

/-- **C11 through the throttle, as a plain specification.**  For every bucket, minimum length, request list,
clock and base-failure pattern: every file the throttle starts — at once or deferred into the middle of a
trigger — is started with the tag (background / threshold) of the latest upstream start request. -/
theorem c11thr_fresh_tags (cap q minLen : Nat) (reqs : List TReq) :
    FreshTags (utrace { t := TState.init cap q minLen } reqs) :=
  (monC11Thr_iff _).mp (C11T.c11_threshold_at_trigger cap q minLen reqs)

/-- a run of the model (`cap = 2`, `q = 1`, `minLen = 2`): two frames, a cut, silence, a restart in the middle
of the trigger once two tokens are back, a stop; then a suppressed start (tag 8), silence, and a deferred
start — with tag 8 — in the middle of that trigger; the second `.stop` in a row is refused by the protocol -/
private def run : List TReq :=
  [.start 0 7 true, .write 0 1 true true true, .write 0 2 true true true, .write 0 3 true true true,
   .write 0 4 true true true, .write 9 5 true true true, .stop true, .stop true,
   .start 9 8 true, .write 9 6 true true true, .write 12 7 true true true, .stop true]

private def runTrace : List TStep := utrace { t := TState.init 2 1 2 } run

example : runTrace.map (·.obs) =
    [[.bStart 7 true, .ret true], [.bWrite 1 true, .ret true], [.bWrite 2 true, .ret true],
     [.throttled, .bStop true, .ret true], [.ret true],
     [.bStart 7 true, .bWrite 5 true, .ret true], [.bStop true, .ret true],
     [.throttled, .ret true], [.ret true],
     [.bStart 8 true, .bWrite 7 true, .ret true], [.bStop true, .ret true]] := by decide +kernel

example : baseCalls runTrace =
    [.bStart 7 true, .bWrite 1 true, .bWrite 2 true, .bStop true, .bStart 7 true, .bWrite 5 true, .bStop true,
     .bStart 8 true, .bWrite 7 true, .bStop true] := by decide +kernel

/-- all five statements hold of the run (decided directly, not through the monitor), step 3 is a cut, step 7
a suppressed start, and the tags are fresh -/
example :
    BasePaired runTrace ∧ CutsLongEnough 2 runTrace ∧ EventsExact runTrace ∧
    TransparentUntilThrottled runTrace ∧ StopForwarding runTrace ∧
    Cut runTrace[3] ∧ SuppressedStart runTrace[7] ∧ ¬ Cut runTrace[6] ∧ ¬ SuppressedStart runTrace[0] ∧
    FreshTags runTrace ∧ monC06 2 runTrace = [] ∧ monC11Thr runTrace = [] := by decide +kernel

example : (List.range 11).map (latestTag runTrace) =
    [some 7, some 7, some 7, some 7, some 7, some 7, some 7, some 8, some 8, some 8, some 8] := by decide +kernel

/-- the same run does NOT have clean cuts for `minLen = 3`: the statement is not vacuous in `minLen` -/
example : ¬ CutsLongEnough 3 runTrace := by decide +kernel

/-- an unpaired write (after the stop): rejected, `BasePaired` fails, the other four hold -/
example :
    let tr : List TStep :=
      [⟨.start 0 7 true, [.bStart 7 true, .ret true]⟩, ⟨.stop true, [.bStop true, .ret true]⟩,
       ⟨.start 0 7 true, [.bWrite 1 true, .throttled, .ret true]⟩]
    monC06 0 tr = ["C06:base-write-outside-file"] ∧ ¬ BasePaired tr ∧ CutsLongEnough 0 tr ∧ EventsExact tr ∧
      TransparentUntilThrottled tr ∧ StopForwarding tr := ⟨rfl, by decide +kernel⟩

/-- a write after a FAILED base start, and a start attempt while a file is open: `BasePaired` fails -/
example :
    let tr1 : List TStep := [⟨.start 0 7 false, [.bStart 7 false, .ret false]⟩,
                             ⟨.write 0 1 true true true, [.bWrite 1 true, .ret true]⟩]
    let tr2 (ok : Bool) : List TStep := [⟨.start 0 7 true, [.bStart 7 true, .ret true]⟩,
                             ⟨.write 0 1 true true true, [.bStart 7 ok, .ret true]⟩]
    monC06 0 tr1 ≠ [] ∧ ¬ BasePaired tr1 ∧ monC06 0 (tr2 true) ≠ [] ∧ ¬ BasePaired (tr2 true) ∧
      monC06 0 (tr2 false) ≠ [] ∧ ¬ BasePaired (tr2 false) := by decide +kernel

/-- a cut after one frame with `minLen = 2`: rejected, `CutsLongEnough` fails, the other four hold; the same
trace is fine for `minLen = 1` -/
example :
    let tr : List TStep :=
      [⟨.start 0 7 true, [.bStart 7 true, .ret true]⟩, ⟨.write 0 1 true true true, [.bWrite 1 true, .ret true]⟩,
       ⟨.write 0 2 true true true, [.throttled, .bStop true, .ret true]⟩]
    monC06 2 tr = ["C06:cut-file-shorter-than-minimum"] ∧ BasePaired tr ∧ ¬ CutsLongEnough 2 tr ∧
      EventsExact tr ∧ TransparentUntilThrottled tr ∧ StopForwarding tr ∧ monC06 1 tr = [] ∧
      CutsLongEnough 1 tr := ⟨rfl, by decide +kernel⟩

/-- frames written into an EARLIER file do not count for the file being cut -/
example :
    let tr : List TStep :=
      [⟨.start 0 7 true, [.bStart 7 true, .ret true]⟩, ⟨.write 0 1 true true true, [.bWrite 1 true, .ret true]⟩,
       ⟨.write 0 2 true true true, [.bWrite 2 true, .ret true]⟩, ⟨.stop true, [.bStop true, .ret true]⟩,
       ⟨.start 0 8 true, [.bStart 8 true, .ret true]⟩, ⟨.write 0 3 true true true, [.bWrite 3 true, .ret true]⟩,
       ⟨.write 0 4 true true true, [.throttled, .bStop true, .ret true]⟩]
    monC06 2 tr = ["C06:cut-file-shorter-than-minimum"] ∧ BasePaired tr ∧ ¬ CutsLongEnough 2 tr := ⟨rfl, by decide +kernel⟩

/-- two `throttled` events in one step (a cut), one event per frame after a suppressed start, an event on a
stop, a missing event on a suppressed start: rejected, `EventsExact` fails -/
example :
    let tr1 : List TStep :=
      [⟨.start 0 7 true, [.bStart 7 true, .ret true]⟩,
       ⟨.write 0 1 true true true, [.throttled, .throttled, .bStop true, .ret true]⟩]
    let tr2 : List TStep :=
      [⟨.start 0 7 true, [.throttled, .ret true]⟩, ⟨.write 0 1 true true true, [.throttled, .ret true]⟩]
    let tr3 : List TStep := [⟨.start 0 7 true, [.throttled, .ret true]⟩, ⟨.stop true, [.throttled, .ret true]⟩]
    let tr4 : List TStep := [⟨.start 0 7 true, [.ret true]⟩]
    monC06 0 tr1 = ["C06:throttled-event-count"] ∧ ¬ EventsExact tr1 ∧ BasePaired tr1 ∧ CutsLongEnough 0 tr1 ∧
      TransparentUntilThrottled tr1 ∧ StopForwarding tr1 ∧
    monC06 0 tr2 = ["C06:throttled-event-count"] ∧ ¬ EventsExact tr2 ∧
    monC06 0 tr3 = ["C06:throttled-event-count"] ∧ ¬ EventsExact tr3 ∧
    monC06 0 tr4 ≠ [] ∧ ¬ EventsExact tr4 := ⟨rfl, by decide +kernel⟩

/-- a start forwarded with another tag, a swallowed frame, an altered result — each before any throttling:
rejected, `TransparentUntilThrottled` fails (for the first one the other four hold); the same altered start
AFTER a `throttled` event is not a transparency violation -/
example :
    let tr1 : List TStep := [⟨.start 0 7 true, [.bStart 8 true, .ret true]⟩]
    let tr2 : List TStep := [⟨.start 0 7 true, [.bStart 7 true, .ret true]⟩, ⟨.write 0 1 true true true, [.ret true]⟩]
    let tr3 : List TStep := [⟨.start 0 7 false, [.bStart 7 false, .ret true]⟩]
    let tr4 : List TStep := [⟨.start 0 6 true, [.throttled, .ret true]⟩, ⟨.stop true, [.ret true]⟩,
                             ⟨.start 0 7 true, [.bStart 8 true, .ret true]⟩]
    monC06 0 tr1 = ["C06:start-not-transparent"] ∧ ¬ TransparentUntilThrottled tr1 ∧ BasePaired tr1 ∧
      CutsLongEnough 0 tr1 ∧ EventsExact tr1 ∧ StopForwarding tr1 ∧
    monC06 0 tr2 = ["C06:write-not-transparent"] ∧ ¬ TransparentUntilThrottled tr2 ∧
    monC06 0 tr3 = ["C06:start-not-transparent"] ∧ ¬ TransparentUntilThrottled tr3 ∧
    monC06 0 tr4 = [] ∧ TransparentUntilThrottled tr4 ∧ ¬ FreshTags tr4 := ⟨rfl, by decide +kernel⟩

/-- a stop swallowed while a base file is open (after a throttling, so transparency is silent): rejected,
`StopForwarding` fails, the other four hold -/
example :
    let tr : List TStep :=
      [⟨.start 0 6 true, [.throttled, .ret true]⟩, ⟨.stop true, [.ret true]⟩,
       ⟨.start 0 7 true, [.bStart 7 true, .ret true]⟩, ⟨.stop true, [.ret true]⟩]
    monC06 0 tr = ["C06:stop-forwarding"] ∧ ¬ StopForwarding tr ∧ BasePaired tr ∧ CutsLongEnough 0 tr ∧
      EventsExact tr ∧ TransparentUntilThrottled tr := ⟨rfl, by decide +kernel⟩

/-- a stale tag: a deferred start with the tag of an older start request — rejected by `monC11Thr`, not
fresh; accepted by `monC06` (which does not look at tags after the first throttling) -/
example :
    let tr : List TStep :=
      [⟨.start 0 6 true, [.bStart 6 true, .ret true]⟩, ⟨.stop true, [.bStop true, .ret true]⟩,
       ⟨.start 0 7 true, [.throttled, .ret true]⟩, ⟨.write 5 1 true true true, [.bStart 6 true, .bWrite 1 true, .ret true]⟩]
    monC11Thr tr ≠ [] ∧ ¬ FreshTags tr ∧ latestTag tr 3 = some 7 ∧ monC06 0 tr = [] := by decide +kernel

/-- a base start before any start request is not fresh either -/
example :
    let tr : List TStep := [⟨.write 0 1 true true true, [.bStart 0 true, .ret true]⟩]
    monC11Thr tr ≠ [] ∧ ¬ FreshTags tr ∧ latestTag tr 0 = none := by decide +kernel

/-- `baseOpenAfter`, `framesInFile` on small inputs -/
example :
    baseOpenAfter [] = false ∧ baseOpenAfter [.bStart 1 true] = true ∧ baseOpenAfter [.bStart 1 false] = false ∧
    baseOpenAfter [.bStart 1 true, .bWrite 0 false, .bStart 2 false] = true ∧
    baseOpenAfter [.bStart 1 true, .bStop false] = false ∧
    framesInFile [.bWrite 0 true] = 1 ∧
    framesInFile [.bStart 1 true, .bWrite 0 true, .bWrite 1 false, .bStop true] = 2 ∧
    framesInFile [.bStart 1 true, .bWrite 0 true, .bStop true, .bStart 2 false, .bWrite 1 true] = 2 ∧
    framesInFile [.bStart 1 true, .bWrite 0 true, .bStop true, .bStart 2 true, .bWrite 1 true] = 1 := by decide +kernel

end TR.C06Spec
