import Generated.Facts
/-! # Source facts — C04: the start gates -/
namespace TR.FactsProc
open Facts

/-- C04: the window is consulted in `canStartWriting`, the run counter is compared with trigger-frames -/
theorem gates_expr : windowGate = "!mp.window.Active()" ∧ triggerTest = "mp.triggered < mp.triggerFrames" := ⟨rfl, rfl⟩

end TR.FactsProc
