import Props.C01
/-!
# C02 — Pre-trigger buffering: recordings start a full preview before the trigger

`Props.C01.c01_c02_monitor` already contains C02 in monitor form (`C02:wrong-first-frame` is never
reported).  This file restates it directly on the model: whenever a recording starts, the event's
observations are `MotionDetected, CheckCanRecord ok, StartRecording ok, RecordingStarted`, then the
writes of exactly the ids `lo, lo+1, …, t` (`t` = the trigger frame), then possibly the end of the
recording, then calls on the other two sinks — with `lo = max (t + 1 − K) nextFree`.

Quantifier: every configuration with `K ≥ 1`, every reachable state (any event list and fault
placement without failing motion-sink writes), every trigger position.
-/
namespace TR.C02

/-- one more than the largest id written to the motion sink so far (0 if nothing was written).
By C01 the ids are written in ascending order, so after a recording this is `1 +` its last id. -/
def nextFree (tr : List Step) : Nat :=
  tr.foldl (fun a st => st.obs.foldl (fun a o =>
    match o.isWrite .motion with
    | some (id, _) => max a (id + 1)
    | none => a) a) 0

/-- it is the `nextFree` field of the C01/C02 monitor (for any trace, not only the model's) -/
theorem nextFree_eq_monitor (K : Nat) (tr : List Step) :
    (tr.foldl (M12.step K) {}).nextFree = nextFree tr :=
  P01.trace_nextFree K tr {}

/-- **C02.** In a state `s` reached from the initial state by any events (without motion-sink write
faults) and not recording, a frame with motion that completes the trigger run while the window is open,
the disk check passes and the file can be created, starts a recording whose writes are exactly
`lo, …, s.n` in this order, where `s.n` is the id of the trigger frame and
`lo = max (s.n + 1 − K) nextFree`; nothing else is written to the motion sink during the event. -/
theorem c02_start (c : PCfg) (hK : 0 < c.K) (evs : List Ev) (hw : C01.NoWriteFaults evs) (f : Faults)
    (hwin : f.win = true) (hcan : f.can = true) (hst : f.mStart = true) (hwf : f.mWriteFail = 0) :
    let s := PState.after c (PState.init c) evs
    let lo := max (s.n + 1 - c.K) (nextFree (PState.trace c (PState.init c) evs))
    s.isRec = false → c.trig ≤ s.triggered + 1 →
    lo ≤ s.n ∧
    ∃ tail side : List Obs,
      (tail = [] ∨ tail = [Obs.re, Obs.call .motion .stop f.mStop]) ∧
      (∀ o ∈ side, ∃ cl ok, o = Obs.call .const cl ok ∨ o = Obs.call .test cl ok) ∧
      (PState.step c s (.frame true f)).2 =
        [Obs.md, Obs.call .motion .can true, Obs.call .motion .start true, Obs.rs] ++
        (List.range' lo (s.n + 1 - lo)).map (fun id => Obs.call .motion (.write id) true) ++
        tail ++ side := by
  intro s lo hrec htr
  obtain ⟨mark, hb, _, hnrec⟩ := (P01.pinv_trace c evs (PState.init c) {} hw (P01.pinv_init c hK)).core.marked
  have hmark : mark = nextFree (PState.trace c (PState.init c) evs) := by
    rw [hnrec hrec]; exact nextFree_eq_monitor c.K _
  have hlo : lo = loOf c.K s.n mark := by
    show max _ _ = max _ _
    rw [hmark]; exact Nat.max_comm _ _
  have hle : lo ≤ s.n := by rw [hlo]; exact loOf_le c.K s.n mark hK (rbase_mark_le hb)
  have hh : (s.ring.write s.n).history = some (List.range' lo (s.n + 1 - lo)) := by
    rw [hlo]; exact rbase_history hb
  obtain ⟨tail, side, h1, h2, h3⟩ := P01.processFrame_start c s f lo hwf hwin hcan hst hrec htr hh hle
  refine ⟨hle, tail, side, h1, ?_, h3⟩
  intro o ho
  exact (P01.offMotion_iff o).1 (List.all_eq_true.1 h2 o ho)

/-- the reach of the pre-trigger buffer: a recording holds `K − 1` frames before the trigger frame
unless fewer frames have been accepted since the previous recording (or start-up) — then it begins
right after the previous recording -/
theorem c02_reach (K n nf : Nat) (hK : 0 < K) :
    let lo := max (n + 1 - K) nf
    (nf + K ≤ n + 1 → lo + (K - 1) = n) ∧ (n + 1 ≤ nf + K → lo = nf) ∧ n + 1 - lo ≤ K := by
  intro lo
  omega

/-! ### Non-vacuity -/

private def cfg : PCfg := { K := 3, minF := 2, maxF := 3, trig := 2, constOn := true, testLast := 1 }

/-- six still frames, one motion frame: the next motion frame (id 7) completes the trigger run -/
private def evs1 : List Ev :=
  [.frame false {}, .frame false {}, .frame false {}, .frame false {}, .frame false {}, .frame false {},
   .frame true {}]

example : C01.NoWriteFaults evs1 := by unfold C01.NoWriteFaults; decide +kernel
set_option maxRecDepth 8000 in
example : (PState.after cfg (PState.init cfg) evs1).isRec = false ∧
    cfg.trig ≤ (PState.after cfg (PState.init cfg) evs1).triggered + 1 ∧
    (PState.after cfg (PState.init cfg) evs1).n = 7 ∧
    nextFree (PState.trace cfg (PState.init cfg) evs1) = 0 := by decide +kernel
-- full reach: `K − 1 = 2` frames before the trigger frame 7
set_option maxRecDepth 8000 in
example : (PState.step cfg (PState.after cfg (PState.init cfg) evs1) (.frame true {})).2 =
    [.md, .call .motion .can true, .call .motion .start true, .rs,
     .call .motion (.write 5) true, .call .motion (.write 6) true, .call .motion (.write 7) true,
     .call .const (.write 7) true, .call .const .stop true] := by decide +kernel

/-- then: recording 5..8 ended by a reset, motion on 9 and 10.  Frame 10 completes the trigger run; the
buffer reaches back to 8, which is already recorded, so the new recording starts right after it, at 9. -/
private def evs2 : List Ev := evs1 ++ [.frame true {}, .frame true {}, .reset {}, .frame true {}]

set_option maxRecDepth 8000 in
example : (PState.after cfg (PState.init cfg) evs2).isRec = false ∧
    (PState.after cfg (PState.init cfg) evs2).n = 10 ∧
    nextFree (PState.trace cfg (PState.init cfg) evs2) = 9 := by decide +kernel
set_option maxRecDepth 8000 in
example : (PState.step cfg (PState.after cfg (PState.init cfg) evs2) (.frame true {})).2 =
    [.md, .call .motion .can true, .call .motion .start true, .rs,
     .call .motion (.write 9) true, .call .motion (.write 10) true,
     .call .const (.write 10) true] := by decide +kernel

end TR.C02
