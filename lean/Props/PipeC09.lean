import Props.C09
import Props.PipeC04
import Proofs.PipeC09
import Proofs.PipeC15
import Proofs.ParseLemmas
/-!
# C09 at pipeline level: camera reset and FFC periods over whole socket histories

"After a camera reset ('clear' on the frame socket) detection results no longer depend on any frame from before
it; frames are never compared across a camera restart (fixed threshold).  No frame within 10 s after an FFC is
ever reported as motion, nor is the first frame after that period."

`Props.C09` proves this for the detector alone.  Here the detector sits inside the composed pipeline of
`TR.Pipeline`, driven by whole socket histories with the window / disk gates changing between steps
(`Proofs.PipeSim`: `GOp`, `Pipe.gop`, `runG F c gs`, `evsG F c gs` — the processor events a history induces,
each accepted frame carrying the detector's verdict).  Definitions in `Proofs.PipeC09` (`flagsAfter`: `Proofs.DetC09`):

* `devOf c g` / `devsG c gs` — the detector event(s) a step / a history induces: `.frame pix ffc` for a socket
  frame the parser accepts (`ffc = ffcOf c tel`, computed from the frame's own telemetry), `.reset` for the `clear`
  marker, nothing for a rejected frame or a test request;
* `verdictsOf evs` — the motion bits of the frame events of a processor event list;
* `flagsAfter devs` — the two detector flags `(firstDiff, affected)` after a detector event list: a function of
  its SHAPE only (`affected` = FFC flag of the last frame, `firstDiff` = false until the first frame, toggling
  during an FFC period; a reset changes neither);
* `startFlags c p gs` — for each step of `gs`, run from pipeline state `p`: did it start a motion file?

Results (every `FloatOps`, every configuration, every history unless stated):

1. `pipe_det_after_clear`, `pipe_runG_det`, `reset_keeps_drops`, `pipe_reset_vs_init`: the detector after a marker
   is `Det.reset` of the detector before; with a fixed threshold it equals a fresh `Det.init` on every field
   except the two flags `firstDiff` / `affected` (kept from before the marker) and the stale slot contents of the
   two rings (which `Oldest()` cannot reach: `PipeC09.Fresh` in `Proofs.Det`).
2. `pipe_c09_reset_independence` (fixed threshold, from `C09.c09c_reset_independence`): two histories
   `gs₁ ++ [clr] ++ tail`, `gs₂ ++ [clr'] ++ tail` whose prefixes induce detector events of the same shape induce the
   SAME processor events on `tail` — in particular the same verdicts.  `pipe_c09_reset_independence_flags`:
   the same for ARBITRARY prefixes that leave the same two flags (`pipe_c09_reset_independence_noffc`: e.g. no
   accepted frame of either prefix is FFC-affected and each has one).  WITHOUT the hypothesis on the flags the
   statement is FALSE (`reset_independence_needs_flags`, by evaluation): the FFC flag of the last frame before the
   camera restart is remembered across it and silences the two frames after it.
   Files: `pipe_c09_file_starts` — the steps of `tail` at which a motion file starts, and the number of files
   started, coincide (throttle off; `countThresh ≥ 1`, or `trig ≤ 1`, or equal `triggered` counters — the
   processor's `Reset` keeps the run of motion frames when no recording is open; an example shows the hypothesis is
   needed); `pipe_c09_recording_extents` — on the common events of the tail the two processors start AND stop
   their recordings at the same events.  Not claimed (and false, see the example): equal PRE-trigger frames — the
   processor's `Reset` does not empty its frame ring, so the first file after a marker may begin with frames from
   before the camera restart.
3. `pipe_c09_no_motion_in_ffc`, `pipe_c09_no_start_in_ffc` (`…_thr` with the throttle), `pipe_c09_quiet_run`:
   an accepted frame that is FFC-affected, or whose last accepted predecessor was (markers, rejected frames and
   test requests in between do not matter), has verdict `false`, and no motion file starts at that step.
4. Non-vacuity by evaluation on the `Tiny` pipeline.
5. The known finding F7 (dynamic threshold) restated at pipeline level as a negative example.
-/
namespace TR.PipeC09
open TR TR.C01Spec TR.PipeC04 TR.PipeLemmas TR.Det TR.P09

section pipeline
variable {F : FloatOps}

/-! ## (1) the detector across a `clear` marker -/

/-- **the detector state after a reset marker is `Det.reset` of the state before it** -/
theorem pipe_det_after_clear (c : PipeCfg) (gs : List GOp) (g : GOp) (h : g.op = .item .clear) :
    (Pipe.gop c (runG F c gs) g).det = (runG F c gs).det.reset := by
  rw [gop_det, devOf_clear c g h]
  rfl

/-- the detector of the pipeline is the detector model run on the induced detector events -/
theorem pipe_runG_det (c : PipeCfg) (gs : List GOp) :
    (runG F c gs).det = Det.after c.det (Det.init F c.det) (devsG c gs) := runG_det c gs

/-- what `Reset` keeps and what it drops (any threshold mode): both frame rings are rewound (slot contents stay),
`backgroundFrames` is zeroed; the two flags, the threshold and the background / weights are kept -/
theorem reset_keeps_drops (d : Det F) :
    d.reset.floored = d.floored.reset ∧ d.reset.diffs = d.diffs.reset ∧ d.reset.backgroundFrames = 0 ∧
    d.reset.firstDiff = d.firstDiff ∧ d.reset.affected = d.affected ∧ d.reset.tempThresh = d.tempThresh ∧
    d.reset.bg = d.bg ∧ d.reset.bgSeeded = d.bgSeeded ∧ d.reset.weight = d.weight :=
  ⟨rfl, rfl, rfl, rfl, rfl, rfl, rfl, rfl, rfl⟩

theorem ring_reset_eq {α : Type} (r : Ring α) (n : Nat) (b : α) (h : r.size = n) :
    r.reset = { Ring.new n b with slots := r.slots } := by
  obtain ⟨sz, cu, sl, fu, ol⟩ := r
  simp only at h
  subst h
  rfl

/-- the flags are what the pipeline's detector holds -/
theorem pipe_flags (c : PipeCfg) (gs : List GOp) :
    ((runG F c gs).det.firstDiff, (runG F c gs).det.affected) = flagsAfter (devsG c gs) := by
  have hfl := after_flags c.det (devsG c gs) (Det.init F c.det)
  rw [← runG_det] at hfl
  exact hfl

/-- **fixed threshold: the detector after a marker against a fresh one.**  Every field is that of
`Det.init`, except the slot contents of the two rings (stale frames, out of reach of `Oldest()`) and the two flags,
which are those the history before the marker left (`flagsAfter`). -/
theorem pipe_reset_vs_init (c : PipeCfg) (hdyn : c.det.dynamic = false) (gs : List GOp) (g : GOp)
    (h : g.op = .item .clear) :
    let d := (Pipe.gop c (runG F c gs) g).det
    let i := Det.init F c.det
    d.tempThresh = i.tempThresh ∧ d.bg = i.bg ∧ d.bgSeeded = i.bgSeeded ∧ d.weight = i.weight ∧
    d.backgroundFrames = i.backgroundFrames ∧
    d.floored = { i.floored with slots := d.floored.slots } ∧ d.diffs = { i.diffs with slots := d.diffs.slots } ∧
    (d.firstDiff, d.affected) = flagsAfter (devsG c gs) ∧ Fresh d := by
  intro d i
  have hd : d = (runG F c gs).det.reset := pipe_det_after_clear c gs g h
  have hw : Wf c.det (runG F c gs).det := by rw [runG_det]; exact wf_after _ _ _ (wf_init F c.det)
  have hf : Fixed c.det (runG F c gs).det := by rw [runG_det]; exact fixed_after F _ hdyn _
  rw [hd]
  refine ⟨hf.t, hf.bg, hf.seeded, hf.w, rfl, ?_, ?_, pipe_flags c gs, fresh_reset c.det _ hw⟩
  · exact ring_reset_eq _ _ _ hw.fs
  · exact ring_reset_eq _ _ _ hw.ds

/-! ## (2) after the marker, nothing before it matters (fixed threshold) -/

theorem devsG_clear (c : PipeCfg) (g : GOp) (h : g.op = .item .clear) : devsG c [g] = [.reset] := by
  rw [devsG_cons, devOf_clear c g h]; rfl

/-- the detector after `gs ++ [clr]` -/
theorem runG_clear_det (c : PipeCfg) (gs : List GOp) (clr : GOp) (h : clr.op = .item .clear) :
    (runG F c (gs ++ [clr])).det = (Det.after c.det (Det.init F c.det) (devsG c gs)).reset := by
  rw [runG_snoc, pipe_det_after_clear c gs clr h, runG_det]

/-- from equal detector outputs after the marker to equal processor events on the tail -/
theorem tail_events_of_outputs (c : PipeCfg) (gs₁ gs₂ : List GOp) (clr clr' : GOp) (tail : List GOp)
    (h1 : clr.op = .item .clear) (h2 : clr'.op = .item .clear)
    (h : Det.outputs c.det (Det.after c.det (Det.init F c.det) (devsG c gs₁)) (.reset :: devsG c tail) =
         Det.outputs c.det (Det.after c.det (Det.init F c.det) (devsG c gs₂)) (.reset :: devsG c tail)) :
    evsFrom c (runG F c (gs₁ ++ [clr])) tail = evsFrom c (runG F c (gs₂ ++ [clr'])) tail := by
  apply evsFrom_congr
  rw [runG_clear_det c gs₁ clr h1, runG_clear_det c gs₂ clr' h2]
  exact h

/-- the processor events of a history with a marker: those of the prefix, the `Reset` event, those of the tail -/
theorem evsG_marker (c : PipeCfg) (gs : List GOp) (clr : GOp) (tail : List GOp) (h : clr.op = .item .clear) :
    evsG F c (gs ++ [clr] ++ tail) =
      evsG F c gs ++ [.reset (gfaults clr)] ++ evsFrom c (runG F c (gs ++ [clr])) tail := by
  rw [evsG_append, evsG_snoc, evOf_clear c _ clr h]

theorem evsG_tail (c : PipeCfg) (gs : List GOp) (clr : GOp) (tail : List GOp) :
    (evsG F c (gs ++ [clr] ++ tail)).drop (gs.length + 1) = evsFrom c (runG F c (gs ++ [clr])) tail := by
  have := evsG_drop (F := F) c (gs ++ [clr]) tail
  simpa using this

/-- **C09 at pipeline level: reset independence** (fixed threshold; derived from `C09.c09c_reset_independence`).
Two socket histories that continue identically after a `clear` marker — `gs₁ ++ [clr] ++ tail` and
`gs₂ ++ [clr'] ++ tail`, same items and same gates in `tail` — and whose prefixes induce detector events of the same
shape (same sequence of accepted frames with the same FFC flags and markers; arbitrary pixel contents, arbitrary
rejected frames, test requests and gates) induce the SAME processor events on the tail: every accepted frame of
the tail gets the same verdict in both runs. -/
theorem pipe_c09_reset_independence (c : PipeCfg) (hdyn : c.det.dynamic = false) (hcount : 1 ≤ c.det.countThresh)
    (gs₁ gs₂ : List GOp) (clr clr' : GOp) (tail : List GOp)
    (hs : C09.SameShape (devsG c gs₁) (devsG c gs₂))
    (h1 : clr.op = .item .clear) (h2 : clr'.op = .item .clear) :
    (evsG F c (gs₁ ++ [clr] ++ tail)).drop (gs₁.length + 1) =
    (evsG F c (gs₂ ++ [clr'] ++ tail)).drop (gs₂.length + 1) := by
  rw [evsG_tail, evsG_tail]
  exact tail_events_of_outputs c gs₁ gs₂ clr clr' tail h1 h2
    (C09.c09c_reset_independence F c.det hdyn hcount (devsG c gs₁) (devsG c gs₂) (devsG c tail) hs)

/-- … in particular the verdict sequences of the tail coincide, and they are the detector model's outputs after a
`Reset` -/
theorem pipe_c09_reset_independence_verdicts (c : PipeCfg) (hdyn : c.det.dynamic = false)
    (hcount : 1 ≤ c.det.countThresh) (gs₁ gs₂ : List GOp) (clr clr' : GOp) (tail : List GOp)
    (hs : C09.SameShape (devsG c gs₁) (devsG c gs₂))
    (h1 : clr.op = .item .clear) (h2 : clr'.op = .item .clear) :
    verdictsOf ((evsG F c (gs₁ ++ [clr] ++ tail)).drop (gs₁.length + 1)) =
    verdictsOf ((evsG F c (gs₂ ++ [clr'] ++ tail)).drop (gs₂.length + 1)) ∧
    verdictsOf ((evsG F c (gs₁ ++ [clr] ++ tail)).drop (gs₁.length + 1)) =
      Det.outputs c.det (runG F c gs₁).det.reset (devsG c tail) := by
  refine ⟨congrArg verdictsOf (pipe_c09_reset_independence c hdyn hcount gs₁ gs₂ clr clr' tail hs h1 h2), ?_⟩
  rw [evsG_tail, verdictsOf_evsFrom, runG_snoc, pipe_det_after_clear c gs₁ clr h1]

/-- **reset independence for arbitrary prefixes** (fixed threshold): the two prefixes may be ANY histories (different
numbers of frames, markers, FFC periods) as long as they leave the detector's two flags `(firstDiff, affected)`
equal — the only content-independent state `Reset` keeps. -/
theorem pipe_c09_reset_independence_flags (c : PipeCfg) (hdyn : c.det.dynamic = false)
    (gs₁ gs₂ : List GOp) (clr clr' : GOp) (tail : List GOp)
    (hfl : flagsAfter (devsG c gs₁) = flagsAfter (devsG c gs₂))
    (h1 : clr.op = .item .clear) (h2 : clr'.op = .item .clear) :
    (evsG F c (gs₁ ++ [clr] ++ tail)).drop (gs₁.length + 1) =
    (evsG F c (gs₂ ++ [clr'] ++ tail)).drop (gs₂.length + 1) := by
  rw [evsG_tail, evsG_tail]
  exact tail_events_of_outputs c gs₁ gs₂ clr clr' tail h1 h2
    (outputs_after_reset c.det hdyn (devsG c gs₁) (devsG c gs₂) (devsG c tail) hfl)

/-- prefixes of the same shape leave the same flags (so `pipe_c09_reset_independence` is a special case) -/
theorem sameShape_flagsAfter (c : PipeCfg) (gs₁ gs₂ : List GOp) (hs : C09.SameShape (devsG c gs₁) (devsG c gs₂)) :
    flagsAfter (devsG c gs₁) = flagsAfter (devsG c gs₂) :=
  sameShape_flags hs _

/-- no accepted frame of the history is FFC-affected -/
def NoFFC (c : PipeCfg) (gs : List GOp) : Prop := ∀ e ∈ devsG c gs, e.ffc = false

/-- the history contains a socket frame the parser accepts -/
def HasFrame (c : PipeCfg) (gs : List GOp) : Prop := ∃ f b, DEv.frame f b ∈ devsG c gs

theorem flags_noffc_stay : ∀ (evs : List DEv), (∀ e ∈ evs, e.ffc = false) →
    evs.foldl flagStep (true, false) = (true, false) := by
  intro evs
  induction evs with
  | nil => intro _; rfl
  | cons e es ih =>
    intro h
    have he := h e (List.mem_cons_self ..)
    have hes := ih (fun x hx => h x (List.mem_cons_of_mem _ hx))
    cases e with
    | frame f b =>
      obtain rfl : b = false := he
      exact hes
    | reset => exact hes

theorem flags_noffc : ∀ (evs : List DEv) (b : Bool), (∀ e ∈ evs, e.ffc = false) → (∃ f a, DEv.frame f a ∈ evs) →
    evs.foldl flagStep (b, false) = (true, false) := by
  intro evs
  induction evs with
  | nil => intro b _ ⟨_, _, h⟩; cases h
  | cons e es ih =>
    intro b h hex
    have he := h e (List.mem_cons_self ..)
    have hrest : ∀ x ∈ es, x.ffc = false := fun x hx => h x (List.mem_cons_of_mem _ hx)
    cases e with
    | frame f a =>
      obtain rfl : a = false := he
      have : flagStep (b, false) (.frame f false) = (true, false) := by simp [flagStep]
      rw [List.foldl_cons, this]
      exact flags_noffc_stay es hrest
    | reset =>
      obtain ⟨f, a, hm⟩ := hex
      rcases List.mem_cons.mp hm with hm | hm
      · cases hm
      · exact ih b hrest ⟨f, a, hm⟩

/-- **reset independence, no FFC before the marker**: if no accepted frame of either prefix is FFC-affected and
each prefix contains an accepted frame, the tails' processor events coincide — whatever else the prefixes are. -/
theorem pipe_c09_reset_independence_noffc (c : PipeCfg) (hdyn : c.det.dynamic = false)
    (gs₁ gs₂ : List GOp) (clr clr' : GOp) (tail : List GOp)
    (hn₁ : NoFFC c gs₁) (hn₂ : NoFFC c gs₂) (hf₁ : HasFrame c gs₁) (hf₂ : HasFrame c gs₂)
    (h1 : clr.op = .item .clear) (h2 : clr'.op = .item .clear) :
    (evsG F c (gs₁ ++ [clr] ++ tail)).drop (gs₁.length + 1) =
    (evsG F c (gs₂ ++ [clr'] ++ tail)).drop (gs₂.length + 1) := by
  apply pipe_c09_reset_independence_flags (F := F) c hdyn gs₁ gs₂ clr clr' tail ?_ h1 h2
  unfold flagsAfter
  rw [flags_noffc _ false hn₁ hf₁, flags_noffc _ false hn₂ hf₂]

/-! ### the motion files started after the marker -/

/-- the processor is not recording after a marker -/
theorem pipe_not_recording_after_clear (c : PipeCfg) (gs : List GOp) (clr : GOp) (h : clr.op = .item .clear) :
    (runG F c (gs ++ [clr])).proc.isRec = false := by
  rw [runG_snoc, gop_proc, evOf_clear c _ clr h]
  exact (stopRecording_spec _ _).1

/-- the situation right after the two markers: the continuation induces the same processor events, and the two
processor states agree on everything that decides where recordings start and stop -/
theorem tail_setup (c : PipeCfg) (hK : 0 < c.proc.K) (hdyn : c.det.dynamic = false)
    (gs₁ gs₂ : List GOp) (clr clr' : GOp) (tail : List GOp)
    (hfl : flagsAfter (devsG c gs₁) = flagsAfter (devsG c gs₂))
    (h1 : clr.op = .item .clear) (h2 : clr'.op = .item .clear)
    (htg : 1 ≤ c.det.countThresh ∨ c.proc.trig ≤ 1 ∨
      (runG F c (gs₁ ++ [clr])).proc.triggered = (runG F c (gs₂ ++ [clr'])).proc.triggered) :
    evsFrom c (runG F c (gs₁ ++ [clr])) tail = evsFrom c (runG F c (gs₂ ++ [clr'])) tail ∧
    Good c.proc (runG F c (gs₁ ++ [clr])).proc ∧ Good c.proc (runG F c (gs₂ ++ [clr'])).proc ∧
    CoreQ c.proc (runG F c (gs₁ ++ [clr])).proc (runG F c (gs₂ ++ [clr'])).proc
      (evsFrom c (runG F c (gs₁ ++ [clr])) tail) := by
  have hev : evsFrom c (runG F c (gs₁ ++ [clr])) tail = evsFrom c (runG F c (gs₂ ++ [clr'])) tail :=
    tail_events_of_outputs c gs₁ gs₂ clr clr' tail h1 h2
      (outputs_after_reset c.det hdyn (devsG c gs₁) (devsG c gs₂) (devsG c tail) hfl)
  obtain ⟨g₁, i₁⟩ := sim_good c hK _ _ (PipeSim.sim_runG (F := F) c hK (gs₁ ++ [clr]))
  obtain ⟨g₂, i₂⟩ := sim_good c hK _ _ (PipeSim.sim_runG (F := F) c hK (gs₂ ++ [clr']))
  have r₁ := pipe_not_recording_after_clear (F := F) c gs₁ clr h1
  have r₂ := pipe_not_recording_after_clear (F := F) c gs₂ clr' h2
  refine ⟨hev, g₁, g₂, r₁.trans r₂.symm, (i₁ r₁).1.trans (i₂ r₂).1.symm, (i₁ r₁).2.trans (i₂ r₂).2.symm, ?_⟩
  rcases htg with h | h | h
  · refine Or.inr (Or.inr ?_)
    unfold FirstQuiet
    rw [verdictsOf_evsFrom, runG_clear_det c gs₁ clr h1]
    have hw : Wf c.det (Det.after c.det (Det.init F c.det) (devsG c gs₁)) := wf_after _ _ _ (wf_init F c.det)
    exact fresh_head c.det h _ _ (wf_reset _ _ hw) (fresh_reset _ _ hw)
  · exact Or.inl h
  · exact Or.inr (Or.inl h)

/-- **C09 at pipeline level, files** (throttle off, fixed threshold).  For two histories that continue identically
after a marker and whose prefixes leave the same detector flags: the steps of the tail at which a motion file is
started are the same in both runs, and so is the number of motion files started during the tail.  The last
hypothesis concerns the processor's run of motion frames (`triggered`), which its `Reset` keeps when no recording is
open: it is irrelevant when the first frame after a marker can never be motion (`countThresh ≥ 1`: that frame is
compared with itself) or when one motion frame triggers (`trig ≤ 1`); otherwise the two counters must agree. -/
theorem pipe_c09_file_starts (c : PipeCfg) (hK : 0 < c.proc.K) (hthr : c.throttle = false)
    (hdyn : c.det.dynamic = false) (gs₁ gs₂ : List GOp) (clr clr' : GOp) (tail : List GOp)
    (hfl : flagsAfter (devsG c gs₁) = flagsAfter (devsG c gs₂))
    (h1 : clr.op = .item .clear) (h2 : clr'.op = .item .clear)
    (htg : 1 ≤ c.det.countThresh ∨ c.proc.trig ≤ 1 ∨
      (runG F c (gs₁ ++ [clr])).proc.triggered = (runG F c (gs₂ ++ [clr'])).proc.triggered) :
    startFlags c (runG F c (gs₁ ++ [clr])) tail = startFlags c (runG F c (gs₂ ++ [clr'])) tail ∧
    motionStarts (runG F c (gs₁ ++ [clr] ++ tail)) - motionStarts (runG F c (gs₁ ++ [clr])) =
      motionStarts (runG F c (gs₂ ++ [clr'] ++ tail)) - motionStarts (runG F c (gs₂ ++ [clr'])) := by
  obtain ⟨hev, g₁, g₂, hcore⟩ := tail_setup (F := F) c hK hdyn gs₁ gs₂ clr clr' tail hfl h1 h2 htg
  have hP₁ := PipeSim.sim_runG (F := F) c hK (gs₁ ++ [clr])
  have hP₂ := PipeSim.sim_runG (F := F) c hK (gs₂ ++ [clr'])
  have hflags : startFlags c (runG F c (gs₁ ++ [clr])) tail = startFlags c (runG F c (gs₂ ++ [clr'])) tail := by
    rw [startFlags_eq c hK hthr tail _ _ hP₁, startFlags_eq c hK hthr tail _ _ hP₂, ← hev]
    exact (proc_sim c.proc _ _ _ g₁ g₂ (evsFrom_pipeEv c tail _) hcore).1
  refine ⟨hflags, ?_⟩
  rw [runG_append c (gs₁ ++ [clr]) tail, runG_append c (gs₂ ++ [clr']) tail,
    motionStarts_fold c hK hthr tail _ _ hP₁, motionStarts_fold c hK hthr tail _ _ hP₂, hflags]
  omega

/-- **… and the recordings have the same extent from the trigger frame on**: run on the (common) processor events
of the tail, the two processors — whose states after the marker differ in the frame counter, the frame ring and
possibly `triggered` — make their successful `StartRecording` calls and their `StopRecording` calls on the motion
sink at the same events.  (What may differ is the number of PRE-trigger frames written at a start: the processor's
`Reset` does not empty its frame ring, see the example below.) -/
theorem pipe_c09_recording_extents (c : PipeCfg) (hK : 0 < c.proc.K) (hthr : c.throttle = false)
    (hdyn : c.det.dynamic = false) (gs₁ gs₂ : List GOp) (clr clr' : GOp) (tail : List GOp)
    (hfl : flagsAfter (devsG c gs₁) = flagsAfter (devsG c gs₂))
    (h1 : clr.op = .item .clear) (h2 : clr'.op = .item .clear)
    (htg : 1 ≤ c.det.countThresh ∨ c.proc.trig ≤ 1 ∨
      (runG F c (gs₁ ++ [clr])).proc.triggered = (runG F c (gs₂ ++ [clr'])).proc.triggered) :
    let E := (evsG F c (gs₁ ++ [clr] ++ tail)).drop (gs₁.length + 1)
    E = (evsG F c (gs₂ ++ [clr'] ++ tail)).drop (gs₂.length + 1) ∧
    (PState.run c.proc (runG F c (gs₁ ++ [clr])).proc E).map hasStartOk =
      (PState.run c.proc (runG F c (gs₂ ++ [clr'])).proc E).map hasStartOk ∧
    (PState.run c.proc (runG F c (gs₁ ++ [clr])).proc E).map hasStop =
      (PState.run c.proc (runG F c (gs₂ ++ [clr'])).proc E).map hasStop := by
  intro E
  have _ := hthr
  obtain ⟨hev, g₁, g₂, hcore⟩ := tail_setup (F := F) c hK hdyn gs₁ gs₂ clr clr' tail hfl h1 h2 htg
  have hE : E = evsFrom c (runG F c (gs₁ ++ [clr])) tail := evsG_tail c gs₁ clr tail
  rw [evsG_tail, hE]
  exact ⟨hev, proc_sim c.proc _ _ _ g₁ g₂ (evsFrom_pipeEv c tail _) hcore⟩

/-! ## (3) no motion, and no motion file, in or right after an FFC period -/

/-- the detector's `affected` flag inside the pipeline: the FFC flag of the last accepted frame — `clear` markers,
rejected frames and test requests leave it alone -/
theorem pipe_affected_nil (c : PipeCfg) : (runG F c []).det.affected = false := rfl

theorem pipe_affected_snoc (c : PipeCfg) (gs : List GOp) (g : GOp) :
    (runG F c (gs ++ [g])).det.affected =
      (match devOf c g with
       | some (.frame _ ffc) => ffc
       | _ => (runG F c gs).det.affected) := by
  rw [runG_snoc, gop_det]
  cases h : devOf c g with
  | none => rfl
  | some e =>
    cases e with
    | frame f ffc => exact C09.c09a_affected F c.det _ f ffc
    | reset => rfl

/-- **C09 at pipeline level: no motion in or right after an FFC period.**  For every history `gs` and every next
step `g` that is a socket frame the parser accepts: if the frame is FFC-affected according to its own telemetry
(`Det.affectedBy`: time on − time of the last FFC < `ffcPeriod`), or the last accepted frame before it was (no
matter what lies in between: markers, rejected frames, test requests), the detector's verdict is `false`. -/
theorem pipe_c09_no_motion_in_ffc (c : PipeCfg) (gs : List GOp) (pix : Frame) (tel : Parse.Telemetry)
    (h : Det.affectedBy c.det ((tel.timeOnMs : Int) * 1000000) ((tel.lastFFCMs : Int) * 1000000) = true ∨
      (runG F c gs).det.affected = true) :
    verdict c (runG F c gs) pix tel = false :=
  C09.c09a_step F c.det (runG F c gs).det pix _ h

/-- … hence the processor event of that step carries "no motion" -/
theorem pipe_c09_quiet_event (c : PipeCfg) (gs : List GOp) (g : GOp) (bytes : List Nat) (pix : Frame)
    (tel : Parse.Telemetry) (hop : g.op = .item (.frame bytes)) (hparse : parseItem c bytes = .ok pix tel)
    (h : Det.affectedBy c.det ((tel.timeOnMs : Int) * 1000000) ((tel.lastFFCMs : Int) * 1000000) = true ∨
      (runG F c gs).det.affected = true) :
    Pipe.evOf c (runG F c gs) g = .frame false (gfaults g) := by
  rw [evOf_ok c _ g bytes pix tel hop hparse, pipe_c09_no_motion_in_ffc c gs pix tel h]

/-- … and no motion file starts at that step (throttle off) -/
theorem pipe_c09_no_start_in_ffc (c : PipeCfg) (hK : 0 < c.proc.K) (hthr : c.throttle = false) (gs : List GOp)
    (g : GOp) (bytes : List Nat) (pix : Frame) (tel : Parse.Telemetry)
    (hop : g.op = .item (.frame bytes)) (hparse : parseItem c bytes = .ok pix tel)
    (h : Det.affectedBy c.det ((tel.timeOnMs : Int) * 1000000) ((tel.lastFFCMs : Int) * 1000000) = true ∨
      (runG F c gs).det.affected = true) :
    motionStarts (Pipe.gop c (runG F c gs) g) = motionStarts (runG F c gs) := by
  have hv := pipe_c09_no_motion_in_ffc (F := F) c gs pix tel h
  -- a step that starts a file carries a verdict of motion (`pipe_start_iff`), and the count never falls
  refine Nat.le_antisymm (Nat.le_of_not_lt fun hgt => ?_) (pipe_at_most_one_start (F := F) c hK hthr gs g).1
  have hm : verdict c (runG F c gs) pix tel = true :=
    ((pipe_start_iff (F := F) c hK hthr gs g bytes pix tel hop hparse).mp hgt).2.1
  rw [hv] at hm
  cases hm

/-- the same with the throttle on (`minLenFrames ≥ 1`) -/
theorem pipe_c09_no_start_in_ffc_thr (c : PipeCfg) (hK : 0 < c.proc.K) (hthr : c.throttle = true)
    (hM : 0 < c.minLenFrames) (gs : List GOp)
    (g : GOp) (bytes : List Nat) (pix : Frame) (tel : Parse.Telemetry)
    (hop : g.op = .item (.frame bytes)) (hparse : parseItem c bytes = .ok pix tel)
    (h : Det.affectedBy c.det ((tel.timeOnMs : Int) * 1000000) ((tel.lastFFCMs : Int) * 1000000) = true ∨
      (runG F c gs).det.affected = true) :
    motionStarts (Pipe.gop c (runG F c gs) g) = motionStarts (runG F c gs) := by
  have hv := pipe_c09_no_motion_in_ffc (F := F) c gs pix tel h
  have hmono := PipeC15.motionStarts_mono (F := F) c gs [g]
  rw [runG_snoc] at hmono
  refine Nat.le_antisymm (Nat.le_of_not_lt fun hgt => ?_) hmono
  -- the frame that `pipe_thr_start_only_if` speaks of is this one
  obtain ⟨_, _, bytes', pix', tel', hop', hparse', _, hv', _⟩ := pipe_thr_start_only_if c hK hthr hM gs g hgt
  cases hop.symm.trans hop'
  cases hparse.symm.trans hparse'
  rw [hv] at hv'
  cases hv'

/-- **the whole history at once**: position `i` of the verdict sequence of a history is `false` wherever the mask
`C09.mustBeQuiet` of the induced detector events says so (the frame is FFC-affected or the previous accepted frame
was) -/
theorem pipe_c09_quiet_run (c : PipeCfg) (gs : List GOp) (i : Nat)
    (h : (C09.mustBeQuiet false (devsG c gs))[i]? = some true) :
    (verdictsOf (evsG F c gs))[i]? = some false := by
  rw [verdictsOf_evsG]
  exact C09.c09a_run F c.det (devsG c gs) i h

end pipeline

/-! ## (4) non-vacuity -/

section examples
open TR.PipeLemmas.Tiny

/-- a socket item with both gates open -/
private def it (i : Socket.Item) : GOp := ⟨true, true, .item i⟩
/-- the camera-reset marker -/
private def clr : GOp := ⟨true, true, .item .clear⟩

/-- two prefixes on the `Tiny` pipeline of `Proofs.PipeLemmas` (fixed threshold, `trig = 1`, one-diff detection: every
change of scene is motion): a hot object enters at the end of the first, the second stays cold -/
private def preHot : List GOp := [it cold, it cold, it hot]
private def preCold : List GOp := [it cold, it cold, it cold]
/-- the common continuation -/
private def tl : List GOp := [it cold, it hot, it hot, it cold]

example : c0.det.dynamic = false ∧ 1 ≤ c0.det.countThresh ∧ 0 < c0.proc.K ∧ c0.throttle = false := by decide +kernel

/-- the prefixes' verdicts differ … -/
example : verdictsOf (evsG F0 c0 preHot) = [false, false, true] ∧
    verdictsOf (evsG F0 c0 preCold) = [false, false, false] := by decide +kernel

/-- … and WITHOUT a marker so do the verdicts of the continuation (its first frame is compared with the last frame
of the prefix) -/
example : verdictsOf ((evsG F0 c0 (preHot ++ tl)).drop 3) = [true, true, false, true] ∧
    verdictsOf ((evsG F0 c0 (preCold ++ tl)).drop 3) = [false, true, false, true] := by decide +kernel

/-- the hypotheses of `pipe_c09_reset_independence` / `…_flags` / `…_noffc` hold for the two prefixes -/
example : flagsAfter (devsG c0 preHot) = flagsAfter (devsG c0 preCold) := by decide +kernel
example : C09.SameShape (devsG c0 preHot) (devsG c0 preCold) := .frame (.frame (.frame .nil))

/-- with the marker the continuation gets the same verdicts in both runs (as `pipe_c09_reset_independence` says),
not constantly `false`; its first frame is compared with itself -/
example : verdictsOf ((evsG F0 c0 (preHot ++ [clr] ++ tl)).drop 4) = [false, true, false, true] ∧
    verdictsOf ((evsG F0 c0 (preCold ++ [clr] ++ tl)).drop 4) = [false, true, false, true] := by decide +kernel

/-- the theorem itself on these histories: the induced processor events of the continuation are equal -/
example : (evsG F0 c0 (preHot ++ [clr] ++ tl)).drop (preHot.length + 1) =
    (evsG F0 c0 (preCold ++ [clr] ++ tl)).drop (preCold.length + 1) :=
  pipe_c09_reset_independence c0 rfl (by decide) preHot preCold clr clr tl (.frame (.frame (.frame .nil))) rfl rfl

set_option maxRecDepth 20000 in
/-- files (`pipe_c09_file_starts`): a recording is open at the marker in the first run only (it is closed by the
marker), yet in both runs motion files start at steps 1 and 3 of the continuation.  The file lists show what the
theorem does NOT say: the pre-trigger frames of the first file after the marker differ — in the second run it begins
with frame 2, recorded BEFORE the camera restart (the processor's `Reset` does not empty its frame ring). -/
example :
    (runG F0 c0 (preHot ++ [clr])).proc.isRec = false ∧ (runG F0 c0 preHot).proc.isRec = true ∧
    (runG F0 c0 preCold).proc.isRec = false ∧
    startFlags c0 (runG F0 c0 (preHot ++ [clr])) tl = [false, true, false, true] ∧
    startFlags c0 (runG F0 c0 (preCold ++ [clr])) tl = [false, true, false, true] ∧
    motionFiles (runG F0 c0 (preHot ++ [clr] ++ tl)) = [[0, 1, 2], [3, 4, 5], [6]] ∧
    motionFiles (runG F0 c0 (preCold ++ [clr] ++ tl)) = [[2, 3, 4, 5], [6]] := by decide +kernel

/-! ### FFC: a Lepton variant of the tiny pipeline -/

/-- Lepton frames (640 telemetry bytes, big-endian pixels), FFC period 10 s -/
private def cL : PipeCfg := { c0 with lepton := true, det := { c0.det with ffcPeriod := 10000000000 } }

/-- a Lepton frame: time on `256·t` ms, last FFC at `256·l` ms, all four pixels `v` -/
private def lep (t l v : Nat) : GOp :=
  it (.frame (List.replicate 2 0 ++ [t, 0] ++ List.replicate 56 0 ++ [l, 0] ++ List.replicate 578 0 ++
    [0, v, 0, v, 0, v, 0, v]))

/-! What the tiny Lepton pipeline makes of a test frame `lep t l v`, stated once (`lep_gop`, `lep_evOf`, `lep_devOf`):
the examples below evaluate runs over these statements, not over the 648 bytes of every frame (each byte read
through `Array.getD` walks the list). -/

private def lepHead (t l : Nat) : List Nat :=
  List.replicate 2 0 ++ [t, 0] ++ List.replicate 56 0 ++ [l, 0] ++ List.replicate 578 0

theorem lepHead_length (t l : Nat) : (lepHead t l).length = Parse.leptonTelemetryBytes := by
  simp only [lepHead, List.length_append, List.length_replicate, List.length_cons, List.length_nil,
    Parse.leptonTelemetryBytes]

private def lepPix (v : Nat) : Frame := fun y x => Parse.pixel Parse.be16 (Parse.ofList [0, v, 0, v, 0, v, 0, v]) 0 2 y x
private def lepTel (t l : Nat) : Parse.Telemetry := Parse.leptonTelemetry (Parse.ofList (lepHead t l))
private def lepFFC (t l : Nat) : Bool :=
  decide (((256 * t : Nat) : Int) * 1000000 - ((256 * l : Nat) : Int) * 1000000 < 10000000000)

theorem lep_parse (t l v : Nat) (hv : v ≠ 0) :
    parseItem cL (lepHead t l ++ [0, v, 0, v, 0, v, 0, v]) = .ok (lepPix v) (lepTel t l) := by
  -- no pixel is zero: each is `0 * 256 + v`, a successor, which evaluation sees once `v` is written as one
  have hfb : Parse.firstBad Parse.be16 (Parse.ofList [0, v, 0, v, 0, v, 0, v]) 0 2 2 0 = none := by
    obtain ⟨w, rfl⟩ : ∃ w, v = w + 1 := ⟨v - 1, by omega⟩
    rfl
  have hc : cL.lepton = true ∧ cL.det.resX = 2 ∧ cL.det.resY = 2 ∧ cL.det.edge = 0 := ⟨rfl, rfl, rfl, rfl⟩
  unfold parseItem
  rw [hc.1, hc.2.1, hc.2.2.1, hc.2.2.2, if_pos rfl, Parse.parseLepton_append _ _ (lepHead_length t l), hfb]
  rfl

theorem lep_ffc (t l : Nat) : ffcOf cL (lepTel t l) = lepFFC t l := by
  have h1 : (lepTel t l).timeOnMs = 256 * t := Parse.big16u32_low _ 1 t rfl rfl rfl rfl
  have h2 : (lepTel t l).lastFFCMs = 256 * l := Parse.big16u32_low _ 30 l rfl rfl rfl rfl
  unfold ffcOf lepFFC Det.affectedBy
  rw [h1, h2]
  rfl

/-- what the pipeline does with an accepted frame, the parse result given -/
private def okStep (p : Pipe F0) (pix : Frame) (tel : Parse.Telemetry) (ffc : Bool) : Pipe F0 :=
  let d := Det.detect cL.det p.det pix ffc
  let r := PState.processFrame cL.proc p.proc d.2 (Pipe.faults cL)
  r.2.foldl (Pipe.applyObs cL)
    { p with det := d.1, accepted := { pix := pix, tel := tel } :: p.accepted, proc := r.1 }

theorem lep_eq (t l v : Nat) : lep t l v = it (.frame (lepHead t l ++ [0, v, 0, v, 0, v, 0, v])) := rfl

theorem lep_gop (p : Pipe F0) (t l v : Nat) (hv : v ≠ 0) :
    Pipe.gop cL p (lep t l v) = okStep p (lepPix v) (lepTel t l) (lepFFC t l) := by
  rw [lep_eq, PipeC15.gop_frame cL p _ _ rfl, show withGates cL (it _) = cL from rfl,
    item_ok _ p _ _ _ (lep_parse t l v hv)]
  show okStep p (lepPix v) (lepTel t l) (ffcOf cL (lepTel t l)) = _
  rw [lep_ffc]

theorem lep_evOf (p : Pipe F0) (t l v : Nat) (hv : v ≠ 0) :
    Pipe.evOf cL p (lep t l v) =
      .frame (Det.detect cL.det p.det (lepPix v) (lepFFC t l)).2 { win := true, can := true } := by
  rw [lep_eq, evOf_ok cL p _ _ _ _ rfl (lep_parse t l v hv)]
  show Ev.frame (Det.detect cL.det p.det (lepPix v) (ffcOf cL (lepTel t l))).2 _ = _
  rw [lep_ffc]
  rfl

theorem lep_devOf (t l v : Nat) (hv : v ≠ 0) :
    devOf cL (lep t l v) = some (.frame (lepPix v) (lepFFC t l)) := by
  rw [lep_eq, devOf_ok cL _ _ _ _ rfl (lep_parse t l v hv), lep_ffc]

/- The next three hold by `rfl` but are deliberately not given the proof term `rfl` (`cases …; rfl` instead), so that
`simp` rewrites with them as with any equation: a `:= rfl` lemma it would apply as a definitional step and leave the
unfolded run to be compared with the original term by a defeq check, which unfolds `Pipe.gop`, i.e. evaluates the run
on the raw bytes after all. -/
theorem foldl_gop_nil (p : Pipe F0) : List.foldl (Pipe.gop cL) p [] = p := by
  cases p
  rfl
theorem foldl_gop_cons (p : Pipe F0) (g : GOp) (gs : List GOp) :
    List.foldl (Pipe.gop cL) p (g :: gs) = List.foldl (Pipe.gop cL) (Pipe.gop cL p g) gs := by
  cases p
  rfl
theorem runG_unfold (gs : List GOp) : runG F0 cL gs = List.foldl (Pipe.gop cL) (Pipe.init F0 cL) gs := by
  cases gs <;> rfl

/-- time on 51.2 s throughout; `lep 200 0 v`: last FFC 51.2 s ago (not affected), `lep 200 180 v`: 5.12 s ago
(affected).  A hot object comes and goes during the FFC period (steps 2–4) and afterwards (steps 6–8). -/
private def hF : List GOp :=
  [lep 200 0 20, lep 200 0 20, lep 200 180 90, lep 200 180 20, lep 200 180 90, lep 200 0 20, lep 200 0 90,
   lep 200 0 20, lep 200 0 90]
/-- the same pixels with no FFC -/
private def hN : List GOp :=
  [lep 200 0 20, lep 200 0 20, lep 200 0 90, lep 200 0 20, lep 200 0 90, lep 200 0 20, lep 200 0 90,
   lep 200 0 20, lep 200 0 90]

set_option maxRecDepth 100000 in
/-- the FFC flags the pipeline computes from the telemetry, and the mask of `pipe_c09_quiet_run` -/
example : (devsG cL hF).map DEv.ffc = [false, false, true, true, true, false, false, false, false] ∧
    C09.mustBeQuiet false (devsG cL hF) = [false, false, true, true, true, true, false, false, false] := by
  simp only [Nat.reduceEqDiff, not_false_eq_true, hF, devsG_cons, lep_devOf, ne_eq]
  decide +kernel

set_option maxRecDepth 100000 in
/-- without the FFC the hot object is motion at step 2 and a motion file starts there; with it, steps 2–5 (the
period and the frame after it) are quiet, and no file starts until step 6 -/
example :
    verdictsOf (evsG F0 cL hN) = [false, false, true, true, true, true, true, true, true] ∧
    verdictsOf (evsG F0 cL hF) = [false, false, false, false, false, false, true, true, true] ∧
    (List.range 10).map (fun i => motionStarts (runG F0 cL (hN.take i))) = [0, 0, 0, 1, 1, 1, 1, 1, 1, 1] ∧
    (List.range 10).map (fun i => motionStarts (runG F0 cL (hF.take i))) = [0, 0, 0, 0, 0, 0, 0, 1, 1, 1] := by
  have hr : List.range 10 = [0, 1, 2, 3, 4, 5, 6, 7, 8, 9] := rfl
  simp only [Nat.reduceEqDiff, not_false_eq_true, hN, hF, hr, List.map_cons, List.map_nil, List.take_succ_cons,
    List.take_zero, List.take_nil, evsG, evsFrom, runG_unfold, foldl_gop_cons, foldl_gop_nil, lep_gop, lep_evOf, ne_eq]
  decide +kernel

/-! ### reset independence needs the hypothesis on the flags -/

set_option maxRecDepth 100000 in
/-- **`pipe_c09_reset_independence` WITHOUT a hypothesis on the prefixes is FALSE** (fixed threshold).  Two
one-frame prefixes with the same pixels; in the first the frame is FFC-affected.  `Reset` keeps the detector's
`affected` flag, so after the marker the first run treats the continuation as "right after an FFC period": its
first two frames are quiet, the hot object at step 1 is not reported and no file starts there — in the second run
it is, and one does. -/
theorem reset_independence_needs_flags :
    let pA : List GOp := [lep 200 180 20]
    let pB : List GOp := [lep 200 0 20]
    let t : List GOp := [lep 200 0 20, lep 200 0 90, lep 200 0 20]
    cL.det.dynamic = false ∧ 1 ≤ cL.det.countThresh ∧
    flagsAfter (devsG cL pA) = (true, true) ∧ flagsAfter (devsG cL pB) = (true, false) ∧
    verdictsOf ((evsG F0 cL (pA ++ [clr] ++ t)).drop 2) = [false, false, true] ∧
    verdictsOf ((evsG F0 cL (pB ++ [clr] ++ t)).drop 2) = [false, true, true] ∧
    startFlags cL (runG F0 cL (pA ++ [clr])) t = [false, false, true] ∧
    startFlags cL (runG F0 cL (pB ++ [clr])) t = [false, true, false] := by
  simp only [Nat.reduceEqDiff, not_false_eq_true, List.cons_append, List.nil_append, evsG, evsFrom, runG_unfold,
    foldl_gop_cons, foldl_gop_nil, startFlags, devsG_cons, lep_gop, lep_evOf, lep_devOf, ne_eq]
  decide +kernel

/-! ### `pipe_c09_file_starts` needs its last hypothesis -/

set_option maxRecDepth 20000 in
/-- with `countThresh = 0` (every compared frame is motion, also the first one after a marker) and `trig = 2`, the
run of motion frames the processor's `Reset` keeps decides where the first file after the marker starts: equal
detector flags, equal verdicts on the continuation, different start steps -/
example :
    let cT : PipeCfg := { c0 with det := { c0.det with countThresh := 0 }, proc := { c0.proc with trig := 2 } }
    let qA : List GOp := [it cold, it cold]
    let qB : List GOp := [it cold]
    let t : List GOp := [it cold, it cold, it cold]
    flagsAfter (devsG cT qA) = flagsAfter (devsG cT qB) ∧
    (runG F0 cT (qA ++ [clr])).proc.triggered = 1 ∧ (runG F0 cT (qB ++ [clr])).proc.triggered = 0 ∧
    verdictsOf ((evsG F0 cT (qA ++ [clr] ++ t)).drop 3) = [true, true, true] ∧
    verdictsOf ((evsG F0 cT (qB ++ [clr] ++ t)).drop 2) = [true, true, true] ∧
    startFlags cT (runG F0 cT (qA ++ [clr])) t = [true, false, false] ∧
    startFlags cT (runG F0 cT (qB ++ [clr])) t = [false, true, false] := by decide +kernel

/-! ## (5) the dynamic threshold: finding F7 at pipeline level (NEGATIVE example, known finding) -/

/-- the tiny pipeline with the dynamic threshold (`previewFrames = 1`, initial threshold 0; with the integer
stand-ins of `Tiny.F0` the "mean" of a background is the sum of its four pixels) -/
private def cD : PipeCfg := { c0 with det := { c0.det with dynamic := true, previewFrames := 1, tempThresh := 0 } }

/-- a Boson frame, all four pixels `lo + 256·hi` -/
private def bo (lo hi : Nat) : GOp := it (.frame [lo, hi, lo, hi, lo, hi, lo, hi])

set_option maxRecDepth 20000 in
/-- **F7 (KNOWN FINDING), end to end: with the dynamic threshold `pipe_c09_reset_independence` is FALSE.**
The counterexample of `Props.C09` pushed through `Pipe.item`: two prefixes of the same shape (two accepted
frames each, pixels 1001, 1000 resp. 2, 1), the marker, the same continuation (pixels 10, then 500).  The second
prefix frame lowers the background, so the threshold is recomputed from the prefix: 4000 in run A, 4 in run B.
`Reset` zeroes `backgroundFrames` but keeps that threshold; the two frames after the marker are background frames
1 (≤ `previewFrames`) and 2 (background unchanged), so the threshold of the scene BEFORE the camera restart
decides: run A floors 10 and 500 to 4000 (no motion, no file), run B reports motion and starts a motion file —
whose header carries the stale threshold. -/
theorem f7_pipeline_dynamic_reset_dependence :
    let pA : List GOp := [bo 233 3, bo 232 3]
    let pB : List GOp := [bo 2 0, bo 1 0]
    let t : List GOp := [bo 10 0, bo 244 1]
    cD.det.dynamic = true ∧ flagsAfter (devsG cD pA) = flagsAfter (devsG cD pB) ∧
    (runG F0 cD (pA ++ [clr])).det.tempThresh = 4000 ∧ (runG F0 cD (pB ++ [clr])).det.tempThresh = 4 ∧
    verdictsOf ((evsG F0 cD (pA ++ [clr] ++ t)).drop 3) = [false, false] ∧
    verdictsOf ((evsG F0 cD (pB ++ [clr] ++ t)).drop 3) = [false, true] ∧
    startFlags cD (runG F0 cD (pA ++ [clr])) t = [false, false] ∧
    startFlags cD (runG F0 cD (pB ++ [clr])) t = [false, true] ∧
    (runG F0 cD (pB ++ [clr] ++ t)).files.map (fun f => (f.frames, f.thresh)) = [([1, 2, 3], 4)] := by decide +kernel

set_option maxRecDepth 20000 in
/-- the same histories with the fixed threshold (as `pipe_c09_reset_independence` says): equal verdicts -/
example :
    let cFx : PipeCfg := { c0 with det := { c0.det with tempThresh := 0 } }
    let pA : List GOp := [bo 233 3, bo 232 3]
    let pB : List GOp := [bo 2 0, bo 1 0]
    let t : List GOp := [bo 10 0, bo 244 1]
    verdictsOf ((evsG F0 cFx (pA ++ [clr] ++ t)).drop 3) = [false, true] ∧
    verdictsOf ((evsG F0 cFx (pB ++ [clr] ++ t)).drop 3) = [false, true] := by decide +kernel

end examples

end TR.PipeC09
