import Generated.Facts
/-! # Source facts — C01 C02 C03 C12 C13 C17 C11: the capacity K of the pre-trigger ring -/
namespace TR.FactsProc
open Facts

/-- C01/C02: the pre-trigger ring holds preview-secs*fps + trigger-frames frames (the `K` of the model) -/
theorem ring_capacity_expr :
    ringSizeExpr = "NewFrameLoop(recorderConf.PreviewSecs*c.FPS()+motionConf.TriggerFrames, c)" := rfl

end TR.FactsProc
