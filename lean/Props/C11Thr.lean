import Proofs.ThrStep
import Proofs.C06Spec
/-!
# C11 (threshold at trigger time, through the throttle)

Every file the throttle starts — at once, or deferred into the middle of a trigger once the
budget is back — is started with the background / threshold handed over by the most recent
upstream `StartRecording`, for every request list, clock and base-failure pattern.
-/
namespace TR.C11T

/-- invariant: while the upstream recording is open the stored tag is the last upstream start's -/
def Rel (u : UState) (m : M11) : Prop :=
  m.fails = [] ∧ (u.upOpen = true → m.lastTag = some u.t.tag)

theorem step_ok (u : UState) (m : M11) (r : TReq) (up : Bool) (h : Rel u m) (hup : Issued u r up) :
    Rel { t := (u.t.step r).1, upOpen := up } (M11.step m ⟨r, (u.t.step r).2⟩) := by
  obtain ⟨hf, ht⟩ := h
  rw [Rel, C06Spec.m11_step_fails, C06Spec.m11_step_tag, and_assoc]
  refine ⟨hf, ?_⟩
  -- left to show, branch by branch of the step: a base start carries the tag the monitor holds after
  -- the request, and the throttle stores that tag if the upstream recording is open afterwards
  have fresh : ∀ tag b, staleStart (some tag) (.bStart tag b) = false := fun tag _ => bne_self_eq_false (some tag)
  cases r with
  | start tk tag ok =>
    -- the monitor takes `tag`, and so does the throttle unless the base refuses, which leaves `up = false`
    obtain ⟨_, rfl⟩ := hup
    simp only [C06Spec.tagOk, C06Spec.tagNext]
    rw [TState.step_start]
    split
    · split
      · exact ⟨by rw [List.any_cons, fresh]; rfl, fun _ => rfl⟩
      · exact ⟨by rw [List.any_cons, fresh]; rfl, nofun⟩
    · split <;> exact ⟨rfl, fun _ => rfl⟩
  | write tk id sok wok pok =>
    -- both keep the tag they share while the upstream recording is open; a deferred start carries it
    simp only [C06Spec.tagOk, C06Spec.tagNext, ht hup.1]
    cases hr : u.t.recording
    · rw [TState.step_write_idle _ _ _ _ _ _ hr]
      split
      · split
        · split <;> exact ⟨by rw [List.any_cons, fresh]; rfl, fun _ => rfl⟩
        · exact ⟨by rw [List.any_cons, fresh]; rfl, fun _ => rfl⟩
      · exact ⟨rfl, fun _ => rfl⟩
    · rw [TState.step_write_rec _ _ _ _ _ _ hr]
      split <;> exact ⟨rfl, fun _ => rfl⟩
  | stop ok =>
    obtain ⟨_, rfl⟩ := hup
    rw [TState.step_stop]
    split <;> exact ⟨rfl, nofun⟩

/-- **C11 (threshold at trigger time).** For every bucket, minimum length, request list, clock and
base-failure pattern the throttle's trace is accepted by the monitor. -/
theorem c11_threshold_at_trigger (cap q minLen : Nat) (reqs : List TReq) :
    monC11Thr (utrace { t := TState.init cap q minLen } reqs) = [] :=
  (utrace_foldl M11.step Rel step_ok reqs _ {} ⟨rfl, fun h => Bool.noConfusion h⟩).elim fun _ h => h.1

example : monC11Thr [⟨.start 0 7 true, [.bStart 7 true, .ret true]⟩, ⟨.write 0 1 true true true, [.bStart 6 true]⟩]
    = ["C11:file-started-with-stale-threshold-or-background",
       "C06:deferred-start-not-forwarded-with-the-arguments-of-the-latest-start"] := rfl

end TR.C11T
