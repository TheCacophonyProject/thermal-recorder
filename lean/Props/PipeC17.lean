import Props.C17Spec
import Proofs.PipeC17
/-!
# C17 at pipeline level, over whole histories with the window / disk gates changing

Definitions (in `Proofs.PipeC17`, `Proofs.PipeC01`, `Proofs.PipeLemmas`, `Proofs.PipeSim`, `Proofs.C17Spec`):

* `runG F c gs` — the composed pipeline (socket items → parser → detector → processor → throttle → abstract
  files) after the history `gs : List GOp`; a `GOp` is a socket item or a test-recording request together with
  the values of the recording-window and disk-check gates at that moment; `evsG F c gs` — the processor events
  the history induces, `tr` their observed trace;
* `constFiles p`, `testFiles p`, `motionFiles p` — the frame-id lists of the continuous / test / motion files of
  a pipeline state, oldest first (`filesOfKind`); `closedFilesOfKind k p` — those closed by `StopRecording`;
* `opKind c op` — the kind of event an op induces: `.testReq`, `.reset` (a `clear` marker), `.bad` (a frame the
  parser rejects), `.frame` (a frame it accepts); it depends on the op and the parser only;
  `opSegments c gs` — the accepted-frame ids of the history cut at the rejected frames;
  `reqStarts c gs` — the ids of the accepted frames that are the first accepted frame after a test request;
  `reqsSpacedG c k gs` — between two test requests at least `k` frames are accepted; all three are folds over
  `gs.map (opKind c ∘ (·.op))` and mention neither gates nor detector.

Every theorem: every `FloatOps`, every configuration with ring capacity ≥ 1, **throttle on or off** (the
throttle sits on the motion sink only: `applyObs_other_kf`), every history.

* `pipe_sink_files` — `constFiles p = filesOf .const tr`, `testFiles p = filesOf .test tr`, every induced
  event is `cleanEv`;
* `pipe_c17_continuous` — recorder on: `constFiles p = (segments tr).flatMap (chunksOf (maxF + 1))`, its
  concatenation is `List.range p.accepted.length`, every file has between 1 and `maxF + 1` frames, every file
  but the last of its segment exactly `maxF + 1`.  NO hypothesis on the test requests (they are invisible to the
  continuous recorder: `constAcc_dropReq`).  `pipe_c17_continuous_ops`: the same with `opSegments c gs` — a
  right-hand side that does not mention window, disk check, detector or throttle.  `pipe_c17_continuous_off`;
* `pipe_c17_gates_independent` — two histories with the same ops and arbitrary gates have the same continuous
  and the same test files (no spacing hypothesis);
* `pipe_c17_test` — spaced requests: `testFiles p = (testStarts tr).map fun a => List.range' a (min (testLast
  + 1) (n - a))`; every finished test file is `List.range' a (testLast + 1)`, `a` a test start;
  `pipe_c17_test_ops`: the same with `reqStarts c gs` and the hypothesis `reqsSpacedG` on the ops;
* `pipe_c17_test_undisturbed` — removing every test request from a history changes neither the motion files
  nor the continuous files (full `RecFile`s, headers included; throttle on or off), nor detector, throttle
  state, accepted frames;
* non-vacuity by evaluation on the `Tiny` pipeline of `Proofs.PipeLemmas`.
-/
namespace TR.PipeC17
open TR TR.C01Spec TR.PipeC04 TR.C17Spec

section pipeline
variable {F : FloatOps}

/-! ## the files are the files of the sinks of the induced trace -/

/-- **the link.**  The continuous (test) files of the pipeline are exactly the files of the continuous (test)
sink of the processor trace of the induced events; those events dictate no failure on either sink; their frame
events are the accepted frames; the finished files are the closed ones. -/
theorem pipe_sink_files (c : PipeCfg) (hK : 0 < c.proc.K) (gs : List GOp) :
    let p := runG F c gs
    let evs := evsG F c gs
    let tr := PState.trace c.proc (PState.init c.proc) evs
    constFiles p = filesOf .const tr ∧ testFiles p = filesOf .test tr ∧
    closedFilesOfKind .const p = closedFilesOf .const tr ∧ closedFilesOfKind .test p = closedFilesOf .test tr ∧
    (∀ e ∈ evs, cleanEv e = true) ∧
    p.proc = PState.after c.proc (PState.init c.proc) evs ∧
    numFrames tr = p.accepted.length := by
  intro p evs tr
  have h := PipeSim.sim_runG (F := F) c hK gs
  obtain ⟨c1, c2⟩ := sink_files (F := F) c hK gs .const (fun h => nomatch h)
  obtain ⟨t1, t2⟩ := sink_files (F := F) c hK gs .test (fun h => nomatch h)
  refine ⟨c1, t1, c2, t2, evsG_clean c gs, h.proc, ?_⟩
  show numFrames (PState.trace c.proc (PState.init c.proc) (evsG F c gs)) = _
  rw [trace_numFrames]; exact h.acc

/-! ## the continuous recorder -/

/-- dropping the test requests from the induced events changes nothing for the continuous sink -/
theorem filesOf_const_dropReq (c : PCfg) (evs : List Ev) (hcl : ∀ e ∈ evs, cleanEv e = true) :
    filesOf .const (PState.trace c (PState.init c) evs) =
      filesOf .const (PState.trace c (PState.init c) (evs.filter notReq)) := by
  have h := constAcc_dropReq c evs (PState.init c) (PState.init c) {} ⟨rfl, rfl⟩
    (fun e he => (cleanEv_split e (hcl e he)).1)
  simp only [filesOf, closedFilesOf, openFileOf, fileAcc_accFrom, h]

/-- **C17, continuous recorder, at pipeline level.**  Recorder on, `n` frames accepted so far: the continuous
files are the chunks of `maxF + 1` frames of the segments between rejected frames; every accepted frame lands
in exactly one continuous file, in order, and nothing else does; every file has between 1 and `maxF + 1`
frames; in every segment every file but the last has exactly `maxF + 1`.  No hypothesis on window, disk check,
detector, throttle or test requests. -/
theorem pipe_c17_continuous (c : PipeCfg) (hK : 0 < c.proc.K) (hc : c.proc.constOn = true) (gs : List GOp) :
    let p := runG F c gs
    let tr := PState.trace c.proc (PState.init c.proc) (evsG F c gs)
    let n := p.accepted.length
    constFiles p = (segments tr).flatMap (chunksOf (c.proc.maxF + 1)) ∧
    (constFiles p).flatten = List.range n ∧
    (segments tr).flatten = List.range n ∧
    (∀ r ∈ constFiles p, 0 < r.length ∧ r.length ≤ c.proc.maxF + 1) ∧
    (∀ seg ∈ segments tr, ∀ init last, chunksOf (c.proc.maxF + 1) seg = init ++ [last] →
      ∀ x ∈ init, x.length = c.proc.maxF + 1) := by
  intro p tr n
  obtain ⟨h1, _, _, _, hcl, _, hn⟩ := pipe_sink_files (F := F) c hK gs
  have hn0 : ((evsG F c gs).filter Ev.isFrame).length = n := (PipeSim.sim_runG (F := F) c hK gs).acc
  -- `c17_files` for the events without the test requests, which are spaced for want of requests; the continuous
  -- sink does not see the difference
  have hcl0 : ∀ e ∈ (evsG F c gs).filter notReq, cleanEv e = true :=
    fun e he => hcl e (List.mem_filter.mp he).1
  have hsp0 : spacedFrom (c.proc.testLast + 1) none ((evsG F c gs).filter notReq) = true :=
    spacedFrom_noReq _ _ _ (fun e he => (List.mem_filter.mp he).2)
  obtain ⟨hchunks, hflat, hlens, _⟩ := (c17_files c.proc hK _ hcl0 hsp0).1 hc
  rw [← filesOf_const_dropReq c.proc _ hcl] at hchunks hflat hlens
  rw [← segments_dropReq c.proc (PState.init c.proc) (PState.init c.proc)] at hchunks
  rw [frames_dropReq, hn0] at hflat
  have e1 : constFiles p = filesOf .const tr := h1
  refine ⟨e1.trans hchunks, by rw [e1]; exact hflat, ?_, by rw [e1]; exact hlens, ?_⟩
  · rw [segments_partition, show numFrames tr = n from hn]
  · intro seg _ init last he
    exact chunksOf_full (c.proc.maxF + 1) (Nat.succ_pos _) seg init last he

/-- … with the right-hand side read off the ops of the history alone: `opSegments c gs` is a fold over the kinds
of the ops (test request / `clear` / rejected frame / accepted frame) and mentions neither the gates nor the
detector nor the throttle -/
theorem pipe_c17_continuous_ops (c : PipeCfg) (hK : 0 < c.proc.K) (hc : c.proc.constOn = true) (gs : List GOp) :
    constFiles (runG F c gs) = (opSegments c gs).flatMap (chunksOf (c.proc.maxF + 1)) := by
  rw [← segments_evsG (F := F) c (PState.init c.proc) gs]
  exact (pipe_c17_continuous (F := F) c hK hc gs).1

/-- recorder off: there is no continuous file -/
theorem pipe_c17_continuous_off (c : PipeCfg) (hK : 0 < c.proc.K) (hc : c.proc.constOn = false) (gs : List GOp) :
    constFiles (runG F c gs) = [] := by
  obtain ⟨h1, _, _, _, hcl, _, _⟩ := pipe_sink_files (F := F) c hK gs
  have hcl0 : ∀ e ∈ (evsG F c gs).filter notReq, cleanEv e = true :=
    fun e he => hcl e (List.mem_filter.mp he).1
  have hsp0 : spacedFrom (c.proc.testLast + 1) none ((evsG F c gs).filter notReq) = true :=
    spacedFrom_noReq _ _ _ (fun e he => (List.mem_filter.mp he).2)
  have k := (c17_files c.proc hK _ hcl0 hsp0).2.1 hc
  rw [← filesOf_const_dropReq c.proc _ hcl] at k
  exact h1.trans k

/-- **independence of the recording window and the disk check, made explicit**: two histories with the same
socket items and test requests in the same order, and arbitrary — different — gate values at every step, have
the same continuous files and the same test files (no hypothesis on the spacing of the requests, throttle on
or off) -/
theorem pipe_c17_gates_independent (c : PipeCfg) (hK : 0 < c.proc.K) (gs gs' : List GOp)
    (h : gs.map (·.op) = gs'.map (·.op)) :
    constFiles (runG F c gs) = constFiles (runG F c gs') ∧ testFiles (runG F c gs) = testFiles (runG F c gs') :=
  sinkFiles_kinds c c hK rfl gs gs' (opKinds_of_ops c h)

/-! ## test recordings -/

/-- **C17, test recordings, at pipeline level.**  If between two test requests at least `testLast + 1` frames
are accepted (`spacedFrom` on the induced events; see `pipe_c17_test_ops` for the condition on the history
itself): there is one test file per test start (the first frame accepted after a request), in order; the file
of start `a` is `a, a+1, …`, `testLast + 1` ids, cut short only by the end of the history; every finished test
file has exactly `testLast + 1` consecutive frames beginning with the first frame accepted after its request.
Throttle on or off, any gates, any motion. -/
theorem pipe_c17_test (c : PipeCfg) (hK : 0 < c.proc.K) (gs : List GOp)
    (hsp : spacedFrom (c.proc.testLast + 1) none (evsG F c gs) = true) :
    let p := runG F c gs
    let tr := PState.trace c.proc (PState.init c.proc) (evsG F c gs)
    let n := p.accepted.length
    testFiles p = (testStarts tr).map (fun a => List.range' a (min (c.proc.testLast + 1) (n - a))) ∧
    (∀ r ∈ closedFilesOfKind .test p, ∃ a ∈ testStarts tr, a + (c.proc.testLast + 1) ≤ n ∧
      r = List.range' a (c.proc.testLast + 1)) ∧
    (∀ r ∈ closedFilesOfKind .test p, r.length = c.proc.testLast + 1) := by
  intro p tr n
  obtain ⟨_, h2, _, h4, hcl, _, _⟩ := pipe_sink_files (F := F) c hK gs
  have hn0 : ((evsG F c gs).filter Ev.isFrame).length = n := (PipeSim.sim_runG (F := F) c hK gs).acc
  obtain ⟨_, _, k1, k2, _⟩ := c17_files c.proc hK _ hcl hsp
  rw [hn0] at k1 k2
  have e2 : testFiles p = filesOf .test tr := h2
  have e4 : closedFilesOfKind .test p = closedFilesOf .test tr := h4
  refine ⟨e2.trans k1, by rw [e4]; exact k2, ?_⟩
  intro r hr
  rw [e4] at hr
  obtain ⟨a, _, _, rfl⟩ := k2 r hr
  simp

/-- … with hypothesis and right-hand side read off the ops of the history alone (`reqsSpacedG`, `reqStarts`:
folds over the kinds of the ops) -/
theorem pipe_c17_test_ops (c : PipeCfg) (hK : 0 < c.proc.K) (gs : List GOp)
    (hsp : reqsSpacedG c (c.proc.testLast + 1) gs = true) :
    let p := runG F c gs
    let n := p.accepted.length
    testFiles p = (reqStarts c gs).map (fun a => List.range' a (min (c.proc.testLast + 1) (n - a))) ∧
    (∀ r ∈ closedFilesOfKind .test p, ∃ a ∈ reqStarts c gs, a + (c.proc.testLast + 1) ≤ n ∧
      r = List.range' a (c.proc.testLast + 1)) := by
  intro p n
  have h := pipe_c17_test (F := F) c hK gs (by rw [spaced_evsG]; exact hsp)
  simp only [testStarts_evsG] at h
  exact ⟨h.1, h.2.1⟩

/-! ## a test request does not disturb a motion recording -/

/-- **"without disturbing a motion recording in progress".**  Take any history and delete all its test requests
(`dropReqs gs`).  Both histories end with the same motion files and the same continuous files — as full
`RecFile`s: frames, closed flag, header —, the same detector and throttle state, the same accepted frames and
counters, and a processor state that differs in the three snapshot fields (`startSnap`, `snapRec`, `snapFrames`)
only: in particular `isRec`, `framesWritten`, `writeUntil`, `triggered` and the frame ring of a motion recording
in progress are untouched.  No hypothesis: any configuration, throttle on or off, any gates, any spacing. -/
theorem pipe_c17_test_undisturbed (c : PipeCfg) (gs : List GOp) :
    let p := runG F c gs
    let p' := runG F c (dropReqs gs)
    motionFiles p = motionFiles p' ∧ constFiles p = constFiles p' ∧
    kf .motion p.files = kf .motion p'.files ∧ kf .const p.files = kf .const p'.files ∧
    p.det = p'.det ∧ p.thr = p'.thr ∧ p.accepted = p'.accepted ∧ p.badFrames = p'.badFrames ∧
    p.resets = p'.resets ∧
    ∃ a b k, p.proc = { p'.proc with startSnap := a, snapRec := b, snapFrames := k } := by
  intro p p'
  obtain ⟨hv, hs⟩ := upToTest_runG (F := F) c gs
  have hv' := hv.symm
  exact ⟨erase_filesOfKind hv' .motion (by simp), erase_filesOfKind hv' .const (by simp),
    erase_kf hv' .motion (by simp), erase_kf hv' .const (by simp), congrArg (·.det) hv', congrArg (·.thr) hv',
    congrArg (·.accepted) hv', congrArg (·.badFrames) hv', congrArg (·.resets) hv', hs⟩

/-- in particular the motion-recording state of the processor is the same with and without the requests -/
theorem pipe_c17_test_undisturbed_proc (c : PipeCfg) (gs : List GOp) :
    let s := (runG F c gs).proc
    let s' := (runG F c (dropReqs gs)).proc
    s.isRec = s'.isRec ∧ s.framesWritten = s'.framesWritten ∧ s.writeUntil = s'.writeUntil ∧
    s.triggered = s'.triggered ∧ s.ring = s'.ring ∧ s.n = s'.n ∧ s.crFrames = s'.crFrames := by
  intro s s'
  obtain ⟨a, b, k, h⟩ := (pipe_c17_test_undisturbed (F := F) c gs).2.2.2.2.2.2.2.2.2
  have h' : s = { s' with startSnap := a, snapRec := b, snapFrames := k } := h
  rw [h']
  exact ⟨rfl, rfl, rfl, rfl, rfl, rfl, rfl⟩

end pipeline

/-! ## non-vacuity -/

section examples
open TR.PipeLemmas.Tiny

/-- the `Tiny` pipeline of `Proofs.PipeLemmas` (2×2 Boson frames, `trig = 1`, 3-slot ring, one-diff detection: every
change of scene is motion) with the continuous recorder on, files of `maxF + 1 = 4` frames, test recordings of
`testLast + 1 = 2` frames -/
private def cC : PipeCfg := { c0 with proc := { c0.proc with constOn := true, maxF := 3, testLast := 1 } }

private def it (window disk : Bool) (i : Socket.Item) : GOp := ⟨window, disk, .item i⟩
private def rq (window disk : Bool) : GOp := ⟨window, disk, .testReq⟩

/-- frames 0–3 with the window closed part of the time (motion at 2 and 3, no start); frame 4: window open,
motion, a motion recording starts with its pre-trigger frames 2, 3; a test request while it runs; frames 5, 6
(the test recording; the motion recording ends with frame 6 by the length rule); a rejected frame ends the
continuous file; frames 7, 8 with the window closed / the disk check failing; a second request (window
closed); frames 9, 10, 11 -/
private def hist : List GOp :=
  [it true true cold, it false true cold, it false true hot, it false true cold, it true true hot,
   rq true true, it true true cold, it true true hot, it true true badf, it false true cold, it true false hot,
   rq false true, it false false cold, it true true cold, it true true cold]

example : cC.proc.constOn = true ∧ 0 < cC.proc.K ∧ cC.throttle = false := by decide +kernel

/-- the kinds of the induced events; the requests are spaced -/
example : opKinds cC hist =
    [.frame, .frame, .frame, .frame, .frame, .testReq, .frame, .frame, .bad, .frame, .frame, .testReq, .frame,
     .frame, .frame] ∧
    reqsSpacedG cC (cC.proc.testLast + 1) hist = true ∧
    opSegments cC hist = [[0, 1, 2, 3, 4, 5, 6], [7, 8, 9, 10, 11]] ∧ reqStarts cC hist = [5, 9] := by decide +kernel

set_option maxRecDepth 40000 in
/-- twelve accepted frames; continuous files of four frames, cut at the rejected frame, the last one open; two
test files of two frames, the first recorded DURING the motion recording 2–6; one motion file, started only
when the window was open -/
example :
    (runG F0 cC hist).accepted.length = 12 ∧
    constFiles (runG F0 cC hist) = [[0, 1, 2, 3], [4, 5, 6], [7, 8, 9, 10], [11]] ∧
    testFiles (runG F0 cC hist) = [[5, 6], [9, 10]] ∧
    closedFilesOfKind .test (runG F0 cC hist) = [[5, 6], [9, 10]] ∧
    motionFiles (runG F0 cC hist) = [[2, 3, 4, 5, 6]] := by decide +kernel

set_option maxRecDepth 40000 in
/-- the motion recording is in progress when the first request arrives and while the test file is written -/
example : (List.range 10).map (fun i => (runG F0 cC (hist.take i)).proc.isRec) =
    [false, false, false, false, false, true, true, true, false, false] := by decide +kernel

set_option maxRecDepth 40000 in
/-- without the requests: the same motion and continuous files, no test file -/
example :
    motionFiles (runG F0 cC (dropReqs hist)) = [[2, 3, 4, 5, 6]] ∧
    constFiles (runG F0 cC (dropReqs hist)) = [[0, 1, 2, 3], [4, 5, 6], [7, 8, 9, 10], [11]] ∧
    testFiles (runG F0 cC (dropReqs hist)) = [] := by decide +kernel

/-- the same ops with all gates open -/
private def hist' : List GOp := hist.map (fun g => { g with windowOpen := true, diskOk := true })

example : hist'.map (·.op) = hist.map (·.op) := rfl

set_option maxRecDepth 40000 in
/-- all gates open instead: the continuous and the test files are the same, the motion files are not -/
example :
    constFiles (runG F0 cC hist') = [[0, 1, 2, 3], [4, 5, 6], [7, 8, 9, 10], [11]] ∧
    testFiles (runG F0 cC hist') = [[5, 6], [9, 10]] ∧
    motionFiles (runG F0 cC hist') ≠ motionFiles (runG F0 cC hist) := by decide +kernel

/-- the same with the throttle and a three-frame bucket -/
private def cCT : PipeCfg := { cC with throttle := true, bucketFrames := 3, minLenFrames := 1 }

set_option maxRecDepth 40000 in
/-- the throttle cuts the motion recording after three frames; the continuous and the test files do not notice -/
example :
    constFiles (runG F0 cCT hist) = [[0, 1, 2, 3], [4, 5, 6], [7, 8, 9, 10], [11]] ∧
    testFiles (runG F0 cCT hist) = [[5, 6], [9, 10]] ∧
    motionFiles (runG F0 cCT hist) = [[2, 3, 4]] ∧
    motionFiles (runG F0 cCT (dropReqs hist)) = [[2, 3, 4]] := by decide +kernel

set_option maxRecDepth 40000 in
/-- **the spacing hypothesis of `pipe_c17_test` is needed**: a second request one frame after the first is
swallowed (`processSnapshot` clears `startSnap` while a test recording runs) — one test file, although `reqStarts`
lists two starts -/
example :
    let h : List GOp := [rq true true, it true true cold, rq true true, it true true cold, it true true cold]
    reqsSpacedG cC (cC.proc.testLast + 1) h = false ∧ reqStarts cC h = [0, 1] ∧
    testFiles (runG F0 cC h) = [[0, 1]] := by decide +kernel

end examples

end TR.PipeC17
