import Props.C05
import TR.ProcMon
/-!
# C05, composed with the motion processor

C05 quantifies over *all* request sequences, so it covers in particular the sequences the motion
processor produces.  This file makes the instance explicit: take any event list of the processor
model (for example continuous motion), take the calls it makes on its motion sink, stamp them with any
non-decreasing clock and any outcomes of the wrapped file recorder — the throttle's trace is accepted
by the window monitor, and every window of it obeys the bucket bound.
-/
namespace TR.C05

/-- the calls the processor makes on the motion recorder, in order (`CheckCanRecord` is passed through the
throttle untouched and is not a request) -/
def motionCalls (tr : List Step) : List Call :=
  (tr.flatMap (·.obs)).filterMap fun o => match o with
    | .call .motion .can _ => none
    | .call .motion c _ => some c
    | _ => none

/-- a throttle request is *of* a processor call when it is the same kind of call (and the same frame) -/
def reqOf : TReq → Call → Prop
  | .start .., .start => True
  | .write _ id .., .write id' => id = id'
  | .stop _, .stop => True
  | _, _ => False

/-- `reqs` are the processor's calls, one request per call, with arbitrary clocks / base-recorder outcomes -/
def matchAll : List TReq → List Call → Prop
  | [], [] => True
  | r :: rs, c :: cs => reqOf r c ∧ matchAll rs cs
  | _, _ => False

def FromProcessor (c : PCfg) (evs : List Ev) (reqs : List TReq) : Prop :=
  matchAll reqs (motionCalls (PState.trace c (PState.init c) evs))

/-- **C05 composed with the real motion processor**: whatever the frame stream (any motion pattern,
continuous motion included, bad frames, resets, refusals), whatever the clock does between calls. -/
theorem c05_composed (c : PCfg) (evs : List Ev) (cap q minLen : Nat) (hc : 0 < cap) (hq : 0 < q)
    (reqs : List TReq) (_hp : FromProcessor c evs reqs) (hm : Mono 0 reqs) :
    monC05 cap q (utrace { t := TState.init cap q minLen } reqs) = [] :=
  c05_window_monitor cap q minLen hc hq reqs hm

theorem c05_composed_every_window (c : PCfg) (evs : List Ev) (cap q minLen : Nat) (hc : 0 < cap) (hq : 0 < q)
    (reqs : List TReq) (_hp : FromProcessor c evs reqs) (hm : Mono 0 reqs) (i j : Nat) (hij : i ≤ j)
    (hj : j < (tickFwd 0 (utrace { t := TState.init cap q minLen } reqs)).length) :
    fwdSum (((tickFwd 0 (utrace { t := TState.init cap q minLen } reqs)).drop i).take (j - i + 1))
      ≤ cap + 1 + q * ((tickFwd 0 (utrace { t := TState.init cap q minLen } reqs))[j].1
          - ((tickFwd 0 (utrace { t := TState.init cap q minLen } reqs))[i]'(by omega)).1) :=
  c05_every_window cap q minLen hc hq reqs hm i j hij hj

/-! ### Non-vacuity: continuous motion through the processor model into a bucket of 4 frames -/

private def cfg : PCfg := { K := 2, minF := 2, maxF := 3, trig := 1, constOn := false, testLast := 1 }
private def evs : List Ev := List.replicate 8 (.frame true {})

/-- eight motion frames: recordings 0..2, 3..5, 6..7 back to back (cut by `maxF`) -/
example : motionCalls (PState.trace cfg (PState.init cfg) evs) =
    [.start, .write 0, .write 1, .write 2, .stop, .start, .write 3, .write 4, .write 5, .stop,
     .start, .write 6, .write 7] := by decide +kernel

private def reqs : List TReq :=
  [.start 0 0 true, .write 0 0 true true true, .write 0 1 true true true, .write 0 2 true true true, .stop true,
   .start 0 0 true, .write 0 3 true true true, .write 0 4 true true true, .write 0 5 true true true, .stop true,
   .start 0 0 true, .write 0 6 true true true, .write 0 7 true true true]

example : FromProcessor cfg evs reqs := by
  unfold FromProcessor
  have : motionCalls (PState.trace cfg (PState.init cfg) evs) =
    [.start, .write 0, .write 1, .write 2, .stop, .start, .write 3, .write 4, .write 5, .stop,
     .start, .write 6, .write 7] := by decide +kernel
  rw [this]
  simp [reqs, reqOf, matchAll]

/-- with a bucket of 4 frames, a minimum clip of 2 and no refill in between, only the first recording
(3 frames) reaches storage: one token is left, less than a minimum clip, so the later starts are suppressed -/
example : ((tickFwd 0 (utrace { t := TState.init 4 1 2 } reqs)).map (·.2)).foldl (· + ·) 0 = 3 := by decide +kernel

end TR.C05
