import Props.C01Spec
import Proofs.PipeSim
/-!
# The composed pipeline WITH the throttle (`c.throttle = true`)

`Props.C01Spec.pipe_c01` describes the motion files of the unthrottled pipeline: they ARE the recordings
of the processor trace the pipeline induces.  With the throttle every processor call on the motion sink
becomes a throttle request at tick 0 (`Pipe.motionCall`; the bucket `TState.init c.bucketFrames 1
c.minLenFrames` is never refilled) and the base-recorder calls the throttle emits create / extend / close
the motion files.  For every `FloatOps`, every configuration with ring capacity ≥ 1 and the throttle on,
every sequence of socket items and test-recording requests:

* `pipe_thr_files_of_recordings` — every motion file holds a PREFIX of a recording of the induced processor
  trace, and the concatenation of the files is a sublist of the concatenation of the recordings;
* `pipe_thr_files_sub` — hence the three-part conclusion of `pipe_c01`: contiguous ascending runs, strictly
  increasing over all files, only ids of accepted frames;
* `pipe_thr_total_exact`, `pipe_thr_total` — frames in motion files + tokens left = `c.bucketFrames` (every
  forwarded frame costs exactly one token, the frame on which the bucket is found empty is NOT forwarded);
* `pipe_thr_min_tokens`, `pipe_thr_start_has_min_tokens` — every motion file was started with at least
  `c.minLenFrames` tokens in hand.

Not true, and therefore not stated: "one file per recording at most".  With `c.minLenFrames = 0` the restart
path of `WriteFrame` (`TState.step`, `.write` while not recording) opens a base file on EVERY frame that
arrives after a cut and closes it at once: one empty file per frame (last example).
-/
namespace TR.PipeThr
open TR TR.C01Spec

/-! ## the throttle: a base start needs `minLen` tokens, whichever request reaches it -/

/-- whenever a throttle request reaches `base.StartRecording` — an upstream start, or the restart path of a
write — the bucket held `minLen` tokens at the tick of the request (read off the equations of `TState.step`:
a `bStart` is observed only in the branches guarded by that test); a stop never starts -/
theorem step_bStart_has_min_tokens (s : TState) (r : TReq) (tag : Nat) (ok : Bool)
    (h : TObs.bStart tag ok ∈ (s.step r).2) :
    ∃ tick, r.tick? = some tick ∧ (s.bucket.available tick).2 ≥ s.minLen := by
  cases r with
  | start tick tag' sok =>
    refine ⟨tick, rfl, ?_⟩
    rw [TState.step_start] at h
    by_cases hge : s.minLen ≤ (s.bucket.adjust tick).avail
    · exact hge
    · rw [if_neg hge] at h
      split at h <;> simp at h
  | stop pok =>
    rw [TState.step_stop] at h
    split at h <;> simp at h
  | write tick id sok wok pok =>
    refine ⟨tick, rfl, ?_⟩
    cases hr : s.recording
    · rw [TState.step_write_idle _ _ _ _ _ _ hr] at h
      by_cases hge : s.minLen ≤ (s.bucket.adjust tick).avail
      · exact hge
      · rw [if_neg hge] at h
        simp at h
    · rw [TState.step_write_rec _ _ _ _ _ _ hr] at h
      split at h <;> simp at h

/-! ## the composed pipeline, throttle on -/

section pipeline
variable {F : FloatOps}

/-- the invariant of `Proofs.PipeThr` at the end of an op list, with the induced event list -/
theorem pipe_thr_inv (c : PipeCfg) (hK : 0 < c.proc.K) (hthr : c.throttle = true) (ops : List PipeOp) :
    let p := ops.foldl (Pipe.op c) (Pipe.init F c)
    ∃ evs : List Ev, C01.NoWriteFaults evs ∧
      p.proc = PState.after c.proc (PState.init c.proc) evs ∧
      (evs.filter Ev.isFrame).length = p.accepted.length ∧
      TInv c.bucketFrames c.minLenFrames (mot p.files)
        (recAcc (PState.trace c.proc (PState.init c.proc) evs)) p.thr := by
  intro p
  obtain ⟨evs, h⟩ := PipeSim.sim_ops (F := F) c hK ops
  exact ⟨evs, fun e he => (h.ev e he).1, h.proc, h.acc, h.thr hthr⟩

theorem motionFiles_G (p : Pipe F) : motionFiles p = G (mot p.files) := motionFiles_eq p

/-- **The throttled files are cut-down recordings.**  There is an event list — the one of
`pipe_files_are_recordings`: frames with the detector's verdicts, bad frames, resets, test requests — that
takes the processor model to the pipeline's processor state and whose frame events are the accepted frames,
such that every motion file holds a prefix of one of its recordings (the throttle forwards the writes of a
recording until it cuts it and drops the rest; a suppressed recording leaves no file or — only when
`c.minLenFrames = 0` — empty ones), and the files, concatenated oldest first, are a sublist of the
recordings, concatenated (so the files come in the order of the recordings they were cut from, and no frame
is in two files). -/
theorem pipe_thr_files_of_recordings (c : PipeCfg) (hK : 0 < c.proc.K) (hthr : c.throttle = true)
    (ops : List PipeOp) :
    let p := ops.foldl (Pipe.op c) (Pipe.init F c)
    ∃ evs : List Ev, C01.NoWriteFaults evs ∧
      p.proc = PState.after c.proc (PState.init c.proc) evs ∧
      (evs.filter Ev.isFrame).length = p.accepted.length ∧
      (∀ g ∈ motionFiles p, ∃ r ∈ recordings (PState.trace c.proc (PState.init c.proc) evs), g <+: r) ∧
      (motionFiles p).flatten.Sublist (recordings (PState.trace c.proc (PState.init c.proc) evs)).flatten := by
  intro p
  obtain ⟨evs, hw, hp, hcount, hti⟩ := pipe_thr_inv (F := F) c hK hthr ops
  refine ⟨evs, hw, hp, hcount, ?_, ?_⟩
  · rw [motionFiles_G]; exact hti.cutOf.pre
  · rw [motionFiles_G]; exact hti.cutOf.sub

/-- **C01 at pipeline level, throttle on**: each motion file is a contiguous ascending run of
accepted-frame ids, over all motion files (oldest first) the ids strictly increase, and every id is the
index of an accepted frame — the conclusion of `pipe_c01`. -/
theorem pipe_thr_files_sub (c : PipeCfg) (hK : 0 < c.proc.K) (hthr : c.throttle = true) (ops : List PipeOp) :
    let p := ops.foldl (Pipe.op c) (Pipe.init F c)
    (∀ r ∈ motionFiles p, ∃ a, r = List.range' a r.length) ∧
    (motionFiles p).flatten.Pairwise (· < ·) ∧
    ∀ id ∈ (motionFiles p).flatten, id < p.accepted.length := by
  intro p
  obtain ⟨evs, hw, _, hcount, hpre, hsub⟩ := pipe_thr_files_of_recordings (F := F) c hK hthr ops
  obtain ⟨h1, h2, h3⟩ := c01_recordings c.proc hK evs hw
  refine ⟨?_, h2.sublist hsub, ?_⟩
  · intro g hg
    obtain ⟨r, hr, hp⟩ := hpre g hg
    obtain ⟨s, hs⟩ := h1 r hr
    rw [hs] at hp
    exact ⟨s, prefix_range' g s _ hp⟩
  · intro id hid
    rw [← hcount]
    exact h3 id (hsub.subset hid)

/-- **Token accounting, exact.**  Frames in motion files + tokens left in the bucket = bucket size: every
frame that reaches a file cost exactly one token and, all requests being made at tick 0, nothing is ever
refilled.  (The write that finds the bucket empty is not forwarded: it closes the file.) -/
theorem pipe_thr_total_exact (c : PipeCfg) (hK : 0 < c.proc.K) (hthr : c.throttle = true) (ops : List PipeOp) :
    let p := ops.foldl (Pipe.op c) (Pipe.init F c)
    (motionFiles p).flatten.length + p.thr.bucket.avail = c.bucketFrames := by
  intro p
  obtain ⟨_, _, _, _, hti⟩ := pipe_thr_inv (F := F) c hK hthr ops
  rw [motionFiles_G]; exact hti.paid.tot

/-- **C05 at pipeline level**: the motion files never hold more frames than the bucket. -/
theorem pipe_thr_total (c : PipeCfg) (hK : 0 < c.proc.K) (hthr : c.throttle = true) (ops : List PipeOp) :
    let p := ops.foldl (Pipe.op c) (Pipe.init F c)
    (motionFiles p).flatten.length ≤ c.bucketFrames := by
  intro p
  have h := pipe_thr_total_exact (F := F) c hK hthr ops
  exact Nat.le.intro h

/-- **C06 (c) at pipeline level, on the files**: every motion file that exists was started with at least
`c.minLenFrames` tokens in hand — the frames of all OLDER motion files plus a whole minimum-length
recording fit in the bucket.  (By `pipe_thr_total_exact` the tokens in hand at that moment are
`c.bucketFrames - pre.flatten.length`.) -/
theorem pipe_thr_min_tokens (c : PipeCfg) (hK : 0 < c.proc.K) (hthr : c.throttle = true) (ops : List PipeOp) :
    let p := ops.foldl (Pipe.op c) (Pipe.init F c)
    ∀ pre f post, motionFiles p = pre ++ f :: post → c.minLenFrames + pre.flatten.length ≤ c.bucketFrames := by
  intro p pre f post hsplit
  obtain ⟨_, _, _, _, hti⟩ := pipe_thr_inv (F := F) c hK hthr ops
  have h := hti.paid.tok pre.length (by rw [← motionFiles_G, hsplit]; simp)
  rw [← motionFiles_G, hsplit, List.take_left' rfl] at h
  exact h

theorem start_min_of_inv {B M : Nat} (p : Pipe F) (a : RecAcc) (hti : TInv B M (mot p.files) a p.thr)
    (r : TReq) (hr : r.tick? = some 0) (tag : Nat) (ok : Bool) (hb : TObs.bStart tag ok ∈ (p.thr.step r).2) :
    M ≤ p.thr.bucket.avail ∧ M + (motionFiles p).flatten.length ≤ B := by
  obtain ⟨tick, htick, hge⟩ := step_bStart_has_min_tokens p.thr r tag ok hb
  rw [hr] at htick
  cases htick
  have hav : (p.thr.bucket.available 0).2 = p.thr.bucket.avail := adjust0_avail p.thr.bucket
  rw [hav, hti.ml] at hge
  have htot := hti.paid.tot
  rw [← motionFiles_G] at htot
  exact ⟨hge, by omega⟩

/-- **C06 (c) at pipeline level, on the requests**: in every reachable state, a throttle request of the
kind `Pipe.motionCall` issues (tick 0) that makes `Pipe.applyTObs` perform `startFile` — i.e. whose
observations contain a `bStart` — finds at least `c.minLenFrames` tokens in the bucket
(`step_bStart_has_min_tokens`; `C06.c06_start_has_min_tokens` is the same fact about `maybeStart`), and the frames already in motion files
plus a minimum-length recording fit in the bucket. -/
theorem pipe_thr_start_has_min_tokens (c : PipeCfg) (hK : 0 < c.proc.K) (hthr : c.throttle = true)
    (ops : List PipeOp) (r : TReq) (hr : r.tick? = some 0) (tag : Nat) (ok : Bool) :
    let p := ops.foldl (Pipe.op c) (Pipe.init F c)
    TObs.bStart tag ok ∈ (p.thr.step r).2 →
      c.minLenFrames ≤ p.thr.bucket.avail ∧
      c.minLenFrames + (motionFiles p).flatten.length ≤ c.bucketFrames := by
  intro p hb
  obtain ⟨_, _, _, _, hti⟩ := pipe_thr_inv (F := F) c hK hthr ops
  exact start_min_of_inv _ _ hti r hr tag ok hb

end pipeline

/-! ## non-vacuity -/

section examples
open TR.PipeLemmas.Tiny

/-- the ops of the example in `Props.C01Spec`: unthrottled, two recordings 0–3 and 4–7 -/
private def ops0 : List PipeOp :=
  [.item cold, .item cold, .item hot, .item hot, .item hot, .item .clear, .testReq,
   .item cold, .item hot, .item hot, .item badf, .item hot]

set_option maxRecDepth 8000 in
example : motionFiles (ops0.foldl (Pipe.op c0) (Pipe.init F0 c0)) = [[0, 1, 2, 3], [4, 5, 6, 7]] := by decide +kernel

set_option maxRecDepth 8000 in
/-- the same ops with the throttle, a two-token bucket and `minLenFrames = 1`: the first recording is cut
after two frames (the file is shorter than the unthrottled recording), the second recording is suppressed
(no tokens left: no file at all); both tokens are spent -/
example :
    let p := ops0.foldl (Pipe.op c1) (Pipe.init F0 c1)
    motionFiles p = [[0, 1]] ∧ p.thr.bucket.avail = 0 ∧ p.thr.recording = false ∧ p.accepted.length = 9 := by
  decide +kernel

/-- … with `minLenFrames = 0` -/
private def c2 : PipeCfg := { c1 with minLenFrames := 0 }

set_option maxRecDepth 8000 in
/-- with `minLenFrames = 0` the restart path of `WriteFrame` opens and at once closes an EMPTY base file for
every frame the processor writes after the cut — and the suppressed second recording leaves empty files too:
"at most one file per recording" is false, the three-part conclusion and the token bound hold -/
example : motionFiles (ops0.foldl (Pipe.op c2) (Pipe.init F0 c2)) = [[0, 1], [], [], [], [], []] := by
  decide +kernel

end examples

end TR.PipeThr
