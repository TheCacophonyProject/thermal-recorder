import TR.LogLimiter
/-!
# C20 — Log limiter drops only exact repeats inside the interval, nothing else

Quantifier: every history of (message, arrival time) pairs, any message type, any interval.
-/
namespace TR.C20

variable {μ : Type} [DecidableEq μ]

/-- the message is an exact repeat of the last printed one and arrives inside the interval -/
def Suppressed (l : LogLim μ) (now : Nat) (msg : μ) : Prop :=
  ∃ t m, l.last = some (t, m) ∧ msg = m ∧ now - t < l.interval

theorem print_suppressed {l : LogLim μ} {now : Nat} {msg : μ} (h : Suppressed l now msg) :
    l.print now msg = (l, false) := by
  obtain ⟨t, m, hl, hm, ht⟩ := h
  simp only [LogLim.print, hl, ht, hm, and_self, if_true]

theorem print_printed {l : LogLim μ} {now : Nat} {msg : μ} (h : ¬ Suppressed l now msg) :
    l.print now msg = ({ l with last := some (now, msg) }, true) := by
  unfold LogLim.print
  split
  · next t m hl => exact if_neg fun hc => h ⟨t, m, hl, hc.2, hc.1⟩
  · rfl

/-- **C20 (characterisation).** A message is suppressed iff it equals the last message
actually printed and arrives less than `interval` after that print. -/
theorem c20_suppressed_iff (l : LogLim μ) (now : Nat) (msg : μ) :
    (l.print now msg).2 = false ↔ ∃ t m, l.last = some (t, m) ∧ msg = m ∧ now - t < l.interval := by
  by_cases h : Suppressed l now msg
  · rw [print_suppressed h]; exact iff_of_true rfl h
  · rw [print_printed h]; exact iff_of_false Bool.noConfusion h

/-- every printed message becomes the reference, unmodified, with its own arrival time -/
theorem c20_printed_recorded (l : LogLim μ) (now : Nat) (msg : μ) (h : (l.print now msg).2 = true) :
    (l.print now msg).1.last = some (now, msg) ∧ (l.print now msg).1.interval = l.interval := by
  by_cases hs : Suppressed l now msg
  · rw [print_suppressed hs] at h; cases h
  · rw [print_printed hs]; exact ⟨rfl, rfl⟩

/-- a suppressed repeat does not move the window (state unchanged) -/
theorem c20_suppressed_keeps_state (l : LogLim μ) (now : Nat) (msg : μ) (h : (l.print now msg).2 = false) :
    (l.print now msg).1 = l := by
  rw [print_suppressed ((c20_suppressed_iff l now msg).mp h)]

/-- every message different from the last printed one is printed (no distinct message is lost) -/
theorem c20_distinct_printed (l : LogLim μ) (now : Nat) (msg : μ)
    (h : ∀ t m, l.last = some (t, m) → msg ≠ m) : (l.print now msg).2 = true := by
  rw [print_printed fun ⟨t, m, hl, hm, _⟩ => h t m hl hm]

/-- a message arriving `interval` or more after the last print is printed, even if identical
(the condition keeps being reported once per interval) -/
theorem c20_after_interval_printed (l : LogLim μ) (now : Nat) (msg : μ)
    (h : ∀ t m, l.last = some (t, m) → l.interval ≤ now - t) : (l.print now msg).2 = true := by
  rw [print_printed fun ⟨t, m, hl, _, ht⟩ => Nat.not_lt.2 (h t m hl) ht]

/-- the reference (the last printed arrival) does not lie after `now` -/
def Sane (l : LogLim μ) (now : Nat) : Prop := ∀ t m, l.last = some (t, m) → t ≤ now

theorem sane_print (l : LogLim μ) (now now' : Nat) (msg : μ) (hs : Sane l now) (hle : now ≤ now') :
    Sane (l.print now msg).1 now' := by
  intro t m hl
  cases hp : (l.print now msg).2 with
  | true =>
    have := (c20_printed_recorded l now msg hp).1
    rw [this] at hl
    simp only [Option.some.injEq, Prod.mk.injEq] at hl
    omega
  | false =>
    rw [c20_suppressed_keeps_state l now msg hp] at hl
    have := hs t m hl
    omega

/-- **C20 (rate).** Two consecutive prints of the same message (no other print in between —
i.e. the second print finds the first as reference) are at least `interval` apart. -/
theorem c20_same_message_spacing (l : LogLim μ) (t1 now : Nat) (msg : μ)
    (href : l.last = some (t1, msg)) (hp : (l.print now msg).2 = true) : l.interval ≤ now - t1 := by
  refine Nat.le_of_not_lt fun hlt => ?_
  rw [print_suppressed ⟨t1, msg, href, rfl, hlt⟩] at hp
  cases hp

/-- The print verdicts of a list of arrivals, threading only "last printed": an arrival is
suppressed iff it repeats the last printed message less than `interval` after it. -/
def specRun (interval : Nat) : Option (Nat × μ) → List (Nat × μ) → List Bool
  | _, [] => []
  | last, (t, m) :: rest =>
    let suppressed := match last with
      | some (tp, mp) => decide (m = mp ∧ t - tp < interval)
      | none => false
    (!suppressed) :: specRun interval (if suppressed then last else some (t, m)) rest

/-- **C20 over whole histories**: `run` prints an arrival iff it is not an exact repeat of the
last printed arrival inside the interval — stated as: the run equals the specification that
threads "last printed" explicitly. -/
theorem c20_run_eq_spec (l : LogLim μ) (h : List (Nat × μ)) :
    l.run h = specRun l.interval l.last h := by
  induction h generalizing l with
  | nil => rfl
  | cons a rest ih =>
    obtain ⟨t, m⟩ := a
    simp only [LogLim.run, specRun]
    by_cases hs : Suppressed l t m
    · obtain ⟨tp, mp, hl, hm, ht⟩ := hs
      rw [print_suppressed ⟨tp, mp, hl, hm, ht⟩, ih, hl]
      simp [hm, ht]
    · rw [print_printed hs, ih]
      cases hl : l.last with
      | none => simp
      | some p =>
        have hd : decide (m = p.2 ∧ t - p.1 < l.interval) = false :=
          decide_eq_false fun hc => hs ⟨p.1, p.2, hl, hc.1, hc.2⟩
        simp [hd]

example : (({ interval := 60 } : LogLim String).run
    [(0, "a"), (10, "a"), (59, "a"), (60, "a"), (61, "b"), (62, "a"), (100, "a"), (122, "a")])
    = [true, false, false, true, true, true, false, true] := by decide +kernel

end TR.C20
