import Proofs.ProcC03
/-!
# C03 — recording length

Quantifier: every configuration with ring capacity `K ≥ 1` and `0 ≤ minF ≤ maxF`, any `trig`, continuous
recorder on/off; every finite list of events (motion / still / rejected frames, resets, test-recording
requests); every placement of environment faults EXCEPT a failing `WriteFrame` on the motion sink
(window closed, disk check failing, `StartRecording` / `StopRecording` failing, continuous / test sink
faults are all covered).

`K ≥ 1` is necessary: with `K = 0` the Go slice expression in `GetHistory` panics; the model marks that
with `Obs.panic` and continues with the old `writeUntil`, which makes the monitor fail (see the
counterexample at the end of this file).
-/
namespace TR.C03
open P03

def NoWriteFaults (evs : List Ev) : Prop := ∀ ev ∈ evs, ev.faults.mWriteFail = 0

/-- **C03.** Recording length: a recording ends exactly at the first post-trigger frame `p` (trigger
frame = 1) with `p ≥ min maxF (L(p) - 1 + minF)`, `L(p)` = index of the last motion frame so far — for all
motion patterns, refused starts, bad frames, resets, all `0 ≤ minF ≤ maxF`. -/
theorem c03_length_monitor (c : PCfg) (hK : 0 < c.K) (hmm : c.minF ≤ c.maxF) (evs : List Ev)
    (hw : NoWriteFaults evs) :
    monC03 c.minF c.maxF (PState.trace c (PState.init c) evs) = [] :=
  (i3_trace c hmm evs (PState.init c) {} hw (i3_init c hK)).fails

/-- the monitor's counters agree with the model after every event list: `p` is `framesWritten`,
and `writeUntil` is the limit `min maxF (l - 1 + minF)` computed from the last motion frame `l` -/
theorem c03_monitor_tracks (c : PCfg) (hK : 0 < c.K) (hmm : c.minF ≤ c.maxF) (evs : List Ev)
    (hw : NoWriteFaults evs) :
    ((PState.trace c (PState.init c) evs).foldl (M3.step c.minF c.maxF) {}).openRec
      = (PState.after c (PState.init c) evs).isRec ∧
    ((PState.after c (PState.init c) evs).isRec = true →
      (PState.after c (PState.init c) evs).framesWritten
        = ((PState.trace c (PState.init c) evs).foldl (M3.step c.minF c.maxF) {}).p ∧
      (PState.after c (PState.init c) evs).writeUntil
        = min c.maxF (((PState.trace c (PState.init c) evs).foldl (M3.step c.minF c.maxF) {}).l - 1 + c.minF)) := by
  have h := i3_trace c hmm evs (PState.init c) {} hw (i3_init c hK)
  exact ⟨h.openEq, fun hr => ⟨(h.recd hr).1, (h.recd hr).2.1⟩⟩

/-- **Upper bound.** Whenever a recording is still open after an event, fewer than `maxF` post-trigger
frames have been written (so a recording never holds more than `max 1 maxF` post-trigger frames: the next
frame either is the `maxF`-th and ends it, or it was ended earlier) — on the monitor's counter … -/
theorem c03_open_lt_max (c : PCfg) (hK : 0 < c.K) (hmm : c.minF ≤ c.maxF) (evs : List Ev)
    (hw : NoWriteFaults evs) :
    ((PState.trace c (PState.init c) evs).foldl (M3.step c.minF c.maxF) {}).openRec = true →
    ((PState.trace c (PState.init c) evs).foldl (M3.step c.minF c.maxF) {}).p < c.maxF := by
  have h := i3_trace c hmm evs (PState.init c) {} hw (i3_init c hK)
  intro ho
  obtain ⟨_, h4, h5⟩ := h.recd (h.openEq.symm.trans ho)
  omega

/-- … and on the model: in every reachable state with a recording open, `framesWritten < writeUntil ≤ maxF`;
with none open, both counters are 0. -/
theorem c03_model_bound (c : PCfg) (hK : 0 < c.K) (hmm : c.minF ≤ c.maxF) (evs : List Ev)
    (hw : NoWriteFaults evs) :
    ((PState.after c (PState.init c) evs).isRec = true →
      (PState.after c (PState.init c) evs).framesWritten < (PState.after c (PState.init c) evs).writeUntil ∧
      (PState.after c (PState.init c) evs).writeUntil ≤ c.maxF) ∧
    ((PState.after c (PState.init c) evs).isRec = false →
      (PState.after c (PState.init c) evs).framesWritten = 0 ∧ (PState.after c (PState.init c) evs).writeUntil = 0) := by
  have h := i3_trace c hmm evs (PState.init c) {} hw (i3_init c hK)
  refine ⟨fun hr => ?_, h.idle⟩
  obtain ⟨h1, h4, h5⟩ := h.recd hr
  omega

/-- **Sustained motion** (`minF ≥ 2`, hence `maxF ≥ 2`). From a reachable state with no recording open and
the motion run about to reach `trig`, `maxF` consecutive fault-free motion frames produce exactly one start
(in the first event), one post-trigger write per event (`framesWritten = i` after `i` events), and exactly
one stop, in the last event: the recording holds exactly `maxF` post-trigger frames.

For `minF ≤ 1` this is false by design of the length rule (`p ≥ min maxF (L - 1 + minF)` already holds at
the trigger frame `p = L = 1`): every recording then ends on its trigger frame — see the example below. -/
theorem c03_sustained_motion (c : PCfg) (hK : 0 < c.K) (hmm : c.minF ≤ c.maxF) (h2 : 2 ≤ c.minF)
    (evs : List Ev) (hw : NoWriteFaults evs)
    (hidle : (PState.after c (PState.init c) evs).isRec = false)
    (htrig : c.trig ≤ (PState.after c (PState.init c) evs).triggered + 1) :
    (PState.trace c (PState.after c (PState.init c) evs) (List.replicate c.maxF (.frame true {}))).map
        (fun st => hasStartOk st.obs) = true :: List.replicate (c.maxF - 1) false ∧
    (PState.trace c (PState.after c (PState.init c) evs) (List.replicate c.maxF (.frame true {}))).map
        (fun st => hasStop st.obs) = List.replicate (c.maxF - 1) false ++ [true] ∧
    (∀ i, 1 ≤ i → i < c.maxF →
      (PState.after c (PState.after c (PState.init c) evs) (List.replicate i (.frame true {}))).isRec = true ∧
      (PState.after c (PState.after c (PState.init c) evs) (List.replicate i (.frame true {}))).framesWritten = i) ∧
    (PState.after c (PState.after c (PState.init c) evs) (List.replicate c.maxF (.frame true {}))).isRec = false := by
  have h := i3_trace c hmm evs (PState.init c) {} hw (i3_init c hK)
  obtain ⟨mark, hring⟩ := h.ring
  obtain ⟨j, hj⟩ : ∃ j, c.maxF = j + 2 := ⟨c.maxF - 2, by omega⟩
  obtain ⟨g1, g2, g3, g4⟩ := sustained c h2 j hj _ mark hring hidle (h.idle hidle).1 htrig
  rw [hj]
  exact ⟨g1, g2, fun i h1 hi => g3 i h1 (by omega), g4⟩

/-! ## Non-vacuity: the monitor rejects wrong traces; the model makes recordings of the stated lengths -/

/-- a recording that runs past `minF` frames without further motion is rejected -/
example : monC03 2 5 [⟨.frame true {}, [.call .motion .start true, .call .motion (.write 0) true]⟩,
                      ⟨.frame false {}, [.call .motion (.write 1) true]⟩] = ["C03:ran-past-limit"] := rfl
/-- a recording that stops before `minF` frames is rejected -/
example : monC03 3 5 [⟨.frame true {}, [.call .motion .start true, .call .motion (.write 0) true]⟩,
                      ⟨.frame false {}, [.call .motion (.write 1) true, .call .motion .stop true]⟩]
    = ["C03:stopped-early"] := rfl

/-- motion, motion (trigger), still: the recording holds `minF = 2` post-trigger frames -/
example (c : PCfg) (hc : c = { K := 3, minF := 2, maxF := 5, trig := 2, constOn := true, testLast := 2 }) :
    (PState.trace c (PState.init c) [.frame true {}, .frame true {}, .frame false {}, .frame false {}]).map
      (fun st => (hasStartOk st.obs, hasStop st.obs))
    = [(false, false), (true, false), (false, true), (false, false)] := by
  subst hc; decide +kernel
/-- sustained motion: the recording holds `maxF = 5` post-trigger frames -/
example (c : PCfg) (hc : c = { K := 3, minF := 2, maxF := 5, trig := 2, constOn := true, testLast := 2 }) :
    (PState.trace c (PState.init c) (List.replicate 7 (.frame true {}))).map
      (fun st => (hasStartOk st.obs, hasStop st.obs))
    = [(false, false), (true, false), (false, false), (false, false), (false, false), (false, true), (false, false)] := by
  subst hc; decide +kernel
/-- the hypotheses of `c03_sustained_motion` are satisfiable -/
example (c : PCfg) (hc : c = { K := 3, minF := 2, maxF := 5, trig := 2, constOn := true, testLast := 2 }) :
    (PState.after c (PState.init c) [.frame true {}]).isRec = false ∧
    c.trig ≤ (PState.after c (PState.init c) [.frame true {}]).triggered + 1 ∧ 2 ≤ c.minF ∧ 0 < c.K ∧
    c.minF ≤ c.maxF ∧ NoWriteFaults [.frame true {}] := by
  subst hc
  refine ⟨by decide +kernel, by decide, by decide, by decide, by decide, ?_⟩
  intro ev hev
  simp only [List.mem_singleton] at hev
  subst hev; rfl

/-- `minF ≤ 1`: under sustained motion every frame starts a recording that ends on the same frame -/
example (c : PCfg) (hc : c = { K := 3, minF := 1, maxF := 5, trig := 1, constOn := true, testLast := 2 }) :
    (PState.trace c (PState.init c) (List.replicate 3 (.frame true {}))).map
      (fun st => (hasStartOk st.obs, hasStop st.obs))
    = [(true, true), (true, true), (true, true)] := by
  subst hc; decide +kernel

/-- **Counterexample for `K = 0`** (why `0 < c.K` is a hypothesis): `GetHistory` panics inside
`startRecording`, `writeUntil` keeps its old value 0, and the recording is cut after the trigger frame. -/
example (c : PCfg) (hc : c = { K := 0, minF := 2, maxF := 2, trig := 0, constOn := false, testLast := 0 }) :
    monC03 c.minF c.maxF (PState.trace c (PState.init c) [.frame true {}]) = ["C03:stopped-early"] := by
  subst hc; decide +kernel

end TR.C03
