import Generated.Facts
import Proofs.C10Glob
import Props.C10

/-!
# C10 (clean-up on arbitrary names) — the start-up clean-up removes EXACTLY the names that contain `.cptv.temp`

`Props.C10` decides the clean-up for the three names of a recording with a digits-and-dots time stamp.
Here the name is arbitrary: the pattern `"*." + cptvTempExt + "*"` = `*.cptv.temp*` matches a name iff the
block `.cptv.temp` occurs somewhere in it (`<:+:` is `List.IsInfix`: a contiguous block).

`globMatch` looks at the PATTERN character first: `'*'` is the wildcard, any other pattern character must
equal the name character.  A `'*'` in the NAME is an ordinary character.
-/
namespace TR.C10Glob
open TR.FS TR.C10

/-- a name that contains `lit` is matched by `* lit *` — for ANY `lit` (a `'*'` inside `lit` is a wildcard and a
wildcard also matches a `'*'`) -/
theorem glob_star_lit_star_of_infix (lit s : List Char) (h : lit <:+: s) :
    globMatch ('*' :: (lit ++ ['*'])) s = true :=
  glob_of_infix lit s h

/-- the no-star hypothesis is needed for "matched ⇒ contains": `***` matches the empty name, which does not
contain `*` -/
example : globMatch ('*' :: (['*'] ++ ['*'])) [] = true ∧ ¬ ['*'] <:+: ([] : List Char) := by
  refine ⟨by simp [globMatch], by decide⟩

/-- what the start-up clean-up does to a directory entry called `n`: the pattern is the expression of the
source (`Props.C10.c10_source_facts`: `cleanupGlobExpr`) over the regenerated constant `cptvTempExt` -/
def removed (n : String) : Bool :=
  globMatch ("*." ++ Facts.cptvTempExt ++ "*").toList n.toList

/-- clean-up removes `n` iff `n` contains `.cptv.temp` -/
theorem cleanup_glob_iff (n : String) :
    globMatch ("*." ++ Facts.cptvTempExt ++ "*").toList n.toList = true ↔
      ".cptv.temp".toList <:+: n.toList := by
  rw [pattern_eq, show ".cptv.temp".toList = tempLit from String.toList_ofList]
  exact glob_star_lit_star_iff tempLit tempLit_nostar n.toList

theorem removed_iff (n : String) : removed n = true ↔ ".cptv.temp".toList <:+: n.toList :=
  cleanup_glob_iff n

theorem kept_iff (n : String) : removed n = false ↔ ¬ ".cptv.temp".toList <:+: n.toList := by
  rw [← removed_iff, Bool.not_eq_true]

/-- (a) `<stem>.cptv.temp<rest>` is removed, whatever the stem and the rest -/
theorem removes_temp_any (stem rest : String) : removed (stem ++ ".cptv.temp" ++ rest) = true := by
  rw [removed_iff, String.toList_append, String.toList_append, List.append_assoc]
  exact List.infix_append' _ _ _

/-- (a) the compressed temporary output `<stem>.cptv.temp` is removed, whatever the stem -/
theorem removes_T (stem : String) : removed (stem ++ ".cptv.temp") = true := by
  have := removes_temp_any stem ""
  rwa [String.append_empty] at this

/-- (a) the scratch file `<stem>.cptv.temp.tmp` is removed, whatever the stem -/
theorem removes_S (stem : String) : removed (stem ++ ".cptv.temp.tmp") = true := by
  have := removes_temp_any stem ".tmp"
  rwa [String.append_assoc] at this

/-- (b) a name that does not contain `.cptv.temp` is kept -/
theorem keeps_of_not_infix (n : String) (h : ¬ ".cptv.temp".toList <:+: n.toList) : removed n = false :=
  (kept_iff n).2 h

/-- (b) appending `.cptv` creates no occurrence of `.cptv.temp`: an occurrence would have to end inside
`.cptv` -/
theorem infix_append_cptv_iff (stem : String) :
    ".cptv.temp".toList <:+: (stem ++ ".cptv").toList ↔ ".cptv.temp".toList <:+: stem.toList := by
  rw [String.toList_append]
  simp only [String.reduceToList]
  exact infix_append_noOverlap _ _ _ (by decide)

/-- (b) a finished recording `<stem>.cptv` is kept iff its stem does not contain `.cptv.temp` -/
theorem keeps_F_iff (stem : String) :
    removed (stem ++ ".cptv") = false ↔ ¬ ".cptv.temp".toList <:+: stem.toList := by
  rw [kept_iff, infix_append_cptv_iff]

/-- (b) … so `<stem>.cptv` IS removed when the stem contains `.cptv.temp` (e.g. `x.cptv.temp.cptv`) -/
theorem removes_F_iff (stem : String) :
    removed (stem ++ ".cptv") = true ↔ ".cptv.temp".toList <:+: stem.toList := by
  rw [removed_iff, infix_append_cptv_iff]

/-- (b) the case of `Props.C10.cleanup_keeps_F`: a digits-and-dots stamp has no `e` -/
theorem keeps_F_of_no_e (stem : String) (h : 'e' ∉ stem.toList) : removed (stem ++ ".cptv") = false := by
  rw [keeps_F_iff]
  intro hi
  exact h (hi.subset (by simp only [String.reduceToList]; decide))

/-! (c) the cases the differential test feeds to `filepath.Glob` -/

theorem keeps_no_leading_dot : removed "cptv.temp" = false := by rw [kept_iff]; simp only [String.reduceToList]; decide +kernel
theorem keeps_cptv_tmp : removed "a.cptv.tmp" = false := by rw [kept_iff]; simp only [String.reduceToList]; decide +kernel
theorem keeps_upper_case : removed "b.CPTV.TEMP" = false := by rw [kept_iff]; simp only [String.reduceToList]; decide +kernel
theorem keeps_truncated : removed "c.cptv.tem" = false := by rw [kept_iff]; simp only [String.reduceToList]; decide +kernel
theorem keeps_notes : removed "notes.txt" = false := by rw [kept_iff]; simp only [String.reduceToList]; decide +kernel
theorem removes_bare : removed ".cptv.temp" = true := by rw [removed_iff]; simp only [String.reduceToList]; decide +kernel
theorem removes_temporary : removed "x.cptv.temporary" = true := by rw [removed_iff]; simp only [String.reduceToList]; decide +kernel
theorem removes_temp_then_cptv : removed "x.cptv.temp.cptv" = true := by rw [removed_iff]; simp only [String.reduceToList]; decide +kernel
/-- a `'*'` in a NAME is an ordinary character -/
theorem keeps_star_name : removed "*" = false := by rw [kept_iff]; simp only [String.reduceToList]; decide +kernel

/-- agreement with `Props.C10`: `removedByCleanup` is `removed` of the file name -/
theorem removedByCleanup_eq (stamp : String) (k : Kind) :
    removedByCleanup ("*." ++ Facts.cptvTempExt ++ "*") stamp k = removed (fileName stamp k) := rfl

end TR.C10Glob
