import Generated.Facts
/-! # Source facts — C18: the buffer hand-off of thermal-writer -/
namespace TR.FactsWiring
open Facts

/-- C18: 256 buffers circulate between two channels of that capacity; the reader takes a spent buffer,
fills it, hands it to the writer, and closes the queue on a read error; the writer writes a frame
before returning its buffer and closes the file when the queue is closed -/
theorem writer_handoff : inFlight = 256 ∧
    writerChannels = "make(chan []byte, inFlight);make(chan []byte, inFlight)" ∧
    writerReaderOrder = "send spentFrames;recv spentFrames;io.ReadFull frame;close writeFrames;send writeFrames" ∧
    writerWriterOrder = "case <-changeFile;builder.Close;case frame, ok := <-inFrames;builder.Close;writeFrame;send outFrames" :=
  ⟨rfl, rfl, rfl, rfl⟩

end TR.FactsWiring
