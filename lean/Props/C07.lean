import Proofs.DetC07
/-!
# C07 — with a fixed threshold and no FFC the detector reports motion exactly per the specification

Quantifier: every resolution, edge width and frame-compare gap (0 included: the floored ring has
capacity gap + 1 ≥ 1), every delta threshold, every count threshold ≥ 1, warmer-only or absolute
differences, one-diff or two-diff mode, every list of `Detect` / `Reset` events in which no frame
is FFC-affected, and every instance of the floating-point parameter (it is never consulted when
`dynamic = false`).

Specification (`TR/DetSpec.lean`): frame `n` of an epoch (frames since start-up / last `Reset`) is
compared with frame `n − gap` of the same epoch (the first one while fewer exist); motion is
reported iff `n ≥ 1` and at least `countThresh` interior pixels exceed `deltaThresh` in this diff
(and, unless one-diff, in the previous frame's diff too).
-/
namespace TR.C07

/-- **C07.** With a fixed threshold and no FFC-affected frame, the detector reports motion exactly
per the declarative specification — for every resolution, edge, gap, every threshold configuration
with countThresh ≥ 1, every frame sequence with resets anywhere, and every instance of the
floating-point parameter. -/
theorem c07_fixed_threshold (F : FloatOps) (c : DCfg) (hdyn : c.dynamic = false)
    (hcount : 1 ≤ c.countThresh) (evs : List DEv) (hnoffc : ∀ e ∈ evs, e.ffc = false) :
    Det.outputs c (Det.init F c) evs = specOutputs c (fun _ => Det.zeroFrame) 0 evs :=
  DetC07.outputs_eq c hdyn hcount evs hnoffc _ _ _ (DetC07.inv_init F c)

/-- **C07, first frame of the stream.** The very first frame is never reported as motion — for
every configuration (dynamic or not, any count threshold) and whether or not it is FFC-affected. -/
theorem c07_first_frame_no_motion (F : FloatOps) (c : DCfg) (f : Frame) (ffc : Bool)
    (es : List DEv) :
    Det.outputs c (Det.init F c) (.frame f ffc :: es) =
      false :: Det.outputs c (Det.detect c (Det.init F c) f ffc).1 es := by
  simp only [Det.outputs, Det.stepEv]
  rw [Det.detect_eq']
  rfl

/-- **C07, first frame after a reset.** After any FFC-free prefix, the `Detect` call following a
`Reset` answers "no motion": the frame is compared with itself.  (That holds in every threshold
mode and whatever the FFC flags are; `hdyn` and `hnoffc` are not used.) -/
theorem c07_detect_after_reset_no_motion (F : FloatOps) (c : DCfg) (hdyn : c.dynamic = false)
    (hcount : 1 ≤ c.countThresh) (pre : List DEv) (hnoffc : ∀ e ∈ pre, e.ffc = false)
    (f : Frame) :
    (Det.detect c (Det.after c (Det.init F c) pre).reset f false).2 = false :=
  have _ := hdyn
  have _ := hnoffc
  PipeC09.fresh_quiet c hcount _ f false
    (PipeC09.fresh_reset c _ (Det.wf_after c pre _ (Det.wf_init F c)))

/-- the same in the output list: the verdict of the first frame following a `Reset` is `false` -/
theorem c07_first_after_reset_no_motion (F : FloatOps) (c : DCfg) (hdyn : c.dynamic = false)
    (hcount : 1 ≤ c.countThresh) (pre : List DEv) (hnoffc : ∀ e ∈ pre, e.ffc = false)
    (f : Frame) (post : List DEv) :
    Det.outputs c (Det.init F c) (pre ++ .reset :: .frame f false :: post) =
      Det.outputs c (Det.init F c) pre ++
        false :: Det.outputs c (Det.after c (Det.init F c) (pre ++ [.reset, .frame f false])) post := by
  rw [Det.outputs_append, Det.after_append]
  simp only [Det.outputs, Det.stepEv, Det.after]
  rw [c07_detect_after_reset_no_motion F c hdyn hcount pre hnoffc f]

/-- **C07, the threshold is fixed.** With `dynamic = false` the temperature threshold is the
configured one after any events whatsoever (FFC-affected frames and resets included). -/
theorem c07_tempThresh_fixed (F : FloatOps) (c : DCfg) (hdyn : c.dynamic = false)
    (evs : List DEv) : (Det.after c (Det.init F c) evs).tempThresh = c.tempThresh :=
  (PipeC09.fixed_after F c hdyn evs).t

/-! ### Non-vacuity -/

/-- a trivial instance of the floating-point parameter -/
def unitOps : FloatOps :=
  { ω := Unit, w0 := (), lower := fun _ _ _ => false, bump := fun _ => (),
    α := Unit, a0 := (), add := fun _ _ _ => (), trunc := fun _ => 0 }

/-- 2×2 sensor, no edge, gap 1, two-diff mode, fixed threshold -/
def cfg2 : DCfg :=
  { resX := 2, resY := 2, edge := 0, gap := 1, useOneDiff := false, deltaThresh := 3,
    countThresh := 2, tempThresh := 10, threshMin := 0, threshMax := 0, warmerOnly := false,
    dynamic := false, previewFrames := 0, ffcPeriod := 0 }

def cfgGap0 : DCfg := { cfg2 with gap := 0, useOneDiff := true }
def cfgOne : DCfg := { cfg2 with useOneDiff := true }
def cfgCount0 : DCfg := { cfg2 with countThresh := 0 }

def flat (v : Nat) : Frame := fun _ _ => v

/-- the hypotheses are satisfiable and motion is really reported: flat 20, 30, 40, reset, 50, 60, 70
gives no (first frame), no (previous diff is zero), yes, then after the reset again no, no, yes. -/
example :
    let evs := [DEv.frame (flat 20) false, .frame (flat 30) false, .frame (flat 40) false,
      .reset, .frame (flat 50) false, .frame (flat 60) false, .frame (flat 70) false]
    cfg2.dynamic = false ∧ 1 ≤ cfg2.countThresh ∧ (∀ e ∈ evs, e.ffc = false) ∧
      Det.outputs cfg2 (Det.init unitOps cfg2) evs = [false, false, true, false, false, true] := by
  decide

/-- the specification itself says the same (so `c07_fixed_threshold` is an equation between
non-trivial lists) -/
example :
    specOutputs cfg2 (fun _ => Det.zeroFrame) 0
      [DEv.frame (flat 20) false, .frame (flat 30) false, .frame (flat 40) false,
        .reset, .frame (flat 50) false, .frame (flat 60) false, .frame (flat 70) false] =
      [false, false, true, false, false, true] := by
  decide

/-- one-diff mode and gap 0: every frame is compared with itself, never any motion -/
example :
    Det.outputs cfgGap0 (Det.init unitOps cfgGap0)
      [DEv.frame (flat 20) false, .frame (flat 90) false, .frame (flat 20) false] =
      [false, false, false] := by
  decide

/-- one-diff mode, gap 1: the second frame already counts -/
example :
    Det.outputs cfgOne (Det.init unitOps cfgOne)
      [DEv.frame (flat 20) false, .frame (flat 90) false, .frame (flat 90) false] =
      [false, true, false] := by
  decide

/-- `countThresh ≥ 1` is needed: with `countThresh = 0` the model reports motion for the first
frame after a reset (count 0 ≥ 0) while the specification never does. -/
example :
    Det.outputs cfgCount0 (Det.init unitOps cfgCount0)
        [DEv.frame (flat 20) false, .reset, .frame (flat 20) false] = [false, true] ∧
      specOutputs cfgCount0 (fun _ => Det.zeroFrame) 0
        [DEv.frame (flat 20) false, .reset, .frame (flat 20) false] = [false, false] := by
  decide

end TR.C07
