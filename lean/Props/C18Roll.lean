import Proofs.C18Roll
import Props.C18

/-!
# C18 (roll-over) — thermal-writer with the one-minute file roll-over stores every frame exactly once,
in arrival order, across its output files; closed files are never touched again; when the connection
ends all queued frames are flushed before the last file is closed and no file is left open

Model: `TR/HandoffRoll.lean` (`St`, `Step`, `Reach`, `files`, `allOut`, `erase`, `StepBad`).
Lemmas: `Proofs/C18Roll.lean` (`step_sim`, `erase_reach`, `step_lift`, `step_files`,
`step_closed_fixed`, `reach_closed_fixed`, …).

Route: `erase` (forget the file boundaries) is a simulation into the one-file system `TR.Handoff`
(`c18r_refines_one_file`): each step is a `TR.Handoff.Step` or a stutter.  The prefix, no-aliasing,
flush and progress theorems are the one-file theorems of `Props/C18.lean` read through `erase`.
All statements are for every capacity, every input, every interleaving (`Reach`), and every firing
pattern of the roll-over timer.
-/
namespace TR.C18Roll
open TR.Handoff (Buf RPhase WPhase)
open TR.HandoffRoll

/-- erasing the file boundaries maps every step from a reachable state to a step of `TR.Handoff` or to
a stutter, the initial state to the initial state, hence every run to a run with `out = allOut` -/
theorem c18r_refines_one_file (cap : Nat) (input : List (List Nat)) :
    erase (init cap input) = TR.Handoff.init cap input ∧
    (∀ s t, Reach (init cap input) s → Step s t →
      TR.Handoff.Step (erase s) (erase t) ∨ erase t = erase s) ∧
    (∀ s, Reach (init cap input) s →
      TR.Handoff.Reach (TR.Handoff.init cap input) (erase s) ∧ (erase s).out = allOut s) :=
  ⟨rfl, fun _ _ hr hs => step_sim hs (cur_closed_iff hr).mp, fun _ hr => ⟨erase_reach hr, rfl⟩⟩

/-- conversely every one-file step from an erased state is the image of a step of the roll-over system
(so the roll-over system has no fewer behaviours, and inherits progress) -/
theorem c18r_one_file_step_lifts (s : St) (u : TR.Handoff.St)
    (h : TR.Handoff.Step (erase s) u) : ∃ t, Step s t ∧ erase t = u :=
  step_lift h

/-- 1. everything stored so far, read across the files in creation order, is a prefix of what arrived:
every frame at most once, in arrival order, byte-for-byte -/
theorem c18r_out_is_prefix (cap : Nat) (input : List (List Nat)) (s : St)
    (hr : Reach (init cap input) s) : allOut s <+: input :=
  TR.C18.c18_out_is_prefix cap input (erase s) (erase_reach hr)

/-- 1'. the full accounting: input = stored ++ in the writer's hand ++ queued ++ in the reader's hand
++ still to arrive -/
theorem c18r_accounting (cap : Nat) (input : List (List Nat)) (s : St)
    (hr : Reach (init cap input) s) :
    input = allOut s ++ TR.C18.pendingW s.writer ++ s.queue.map (·.content) ++
      TR.C18.pendingR s.reader ++ s.input :=
  (hinv_erase hr).content

/-- 2. (invariant) every file but the last is closed, and the last one is closed exactly when the
writer has returned;
(step) a step either leaves the files alone, or appends one frame to the LAST file, or closes the last
file (and, for a roll-over, adds a fresh empty open file after it); the files before the last are
untouched, and every file that is closed stays at its position with its content -/
theorem c18r_closed_files_stay (cap : Nat) (input : List (List Nat)) (s : St)
    (hr : Reach (init cap input) s) :
    (∀ f ∈ (files s).dropLast, f.closed = true) ∧
    ((files s).getLast? = some s.cur ∧ (s.cur.closed = true ↔ s.writer = .done)) ∧
    (∀ t, Step s t →
      FilesChange s t ∧
      (files s).dropLast <+: (files t).dropLast ∧
      (∀ (i : Nat) (f : FileRec), (files s)[i]? = some f → f.closed = true →
        (files t)[i]? = some f)) := by
  refine ⟨?_, ⟨files_getLast? s, cur_closed_iff hr⟩, ?_⟩
  · rw [files_dropLast]; exact done_closed hr
  · intro t hs
    refine ⟨step_files hs, ?_, fun i f hi hf =>
      step_closed_fixed hs (cur_closed_iff hr).mp i f hi hf⟩
    rw [files_dropLast, files_dropLast]
    rcases step_done hs with e | ⟨_, e⟩
    · rw [e]; exact List.prefix_refl _
    · rw [e]; exact List.prefix_append _ _

/-- 2'. a file that is closed in some reachable state is the same file, at the same position, in every
later state of the run -/
theorem c18r_closed_files_stay_forever (cap : Nat) (input : List (List Nat)) (s t : St)
    (hr : Reach (init cap input) s) (hst : Reach s t) (i : Nat) (f : FileRec)
    (hi : (files s)[i]? = some f) (hf : f.closed = true) : (files t)[i]? = some f :=
  reach_closed_fixed hr hst i f hi hf

/-- 3. when the writer has returned: the reader has returned, nothing is queued, EVERY file is closed
(none left unflushed), and the files together hold exactly the frames that arrived -/
theorem c18r_flush_on_close (cap : Nat) (input : List (List Nat)) (s : St)
    (hr : Reach (init cap input) s) (hw : s.writer = .done) :
    s.reader = .done ∧ s.queue = [] ∧ (∀ f ∈ files s, f.closed = true) ∧ allOut s = input := by
  have hc : s.cur.closed = true := (cur_closed_iff hr).mpr hw
  obtain ⟨h1, _, h3, h4⟩ :=
    TR.C18.c18_flush_on_close cap input (erase s) (erase_reach hr) hc
  refine ⟨h1, h3, ?_, h4⟩
  intro f hf
  rcases List.mem_append.mp hf with hf | hf
  · exact done_closed hr f hf
  · rw [List.mem_singleton.mp hf]; exact hc

/-- 3'. the same, starting from "the last file is closed" (the form of `c18_flush_on_close`) -/
theorem c18r_flush_on_last_closed (cap : Nat) (input : List (List Nat)) (s : St)
    (hr : Reach (init cap input) s) (hc : s.cur.closed = true) :
    s.reader = .done ∧ s.writer = .done ∧ s.queue = [] ∧ (∀ f ∈ files s, f.closed = true) ∧
      allOut s = input := by
  have hw := (cur_closed_iff hr).mp hc
  obtain ⟨h1, h2, h3, h4⟩ := c18r_flush_on_close cap input s hr hw
  exact ⟨h1, hw, h2, h3, h4⟩

/-- 3''. while the writer has not returned, the last file is open (frames can only go into an open
file) -/
theorem c18r_current_open (cap : Nat) (input : List (List Nat)) (s : St)
    (hr : Reach (init cap input) s) (hw : s.writer ≠ .done) : s.cur.closed = false :=
  cur_open (cur_closed_iff hr).mp hw

/-- 4. the buffer the reader is about to fill (or has filled and not yet sent) is not one of the
buffers waiting in the queue, nor the one the writer holds or has just written, nor still in the
spent channel -/
theorem c18r_no_aliasing (cap : Nat) (input : List (List Nat)) (s : St)
    (hr : Reach (init cap input) s) (b : Buf)
    (hb : s.reader = .holding b ∨ s.reader = .filled b) :
    (∀ q ∈ s.queue, q.id ≠ b.id) ∧
    (∀ w, s.writer = .holding w ∨ s.writer = .written w → w.id ≠ b.id) ∧
    (∀ q ∈ s.spent, q.id ≠ b.id) :=
  TR.C18.c18_no_aliasing cap input (erase s) (erase_reach hr) b hb

/-- 4'. the queued frames sit in pairwise distinct buffers, none of which is being written or is
available for reuse -/
theorem c18r_queue_distinct (cap : Nat) (input : List (List Nat)) (s : St)
    (hr : Reach (init cap input) s) :
    (s.queue.map (·.id)).Nodup ∧ (∀ q ∈ s.queue, ∀ p ∈ s.spent, q.id ≠ p.id) ∧
    (∀ w, s.writer = .holding w ∨ s.writer = .written w → ∀ q ∈ s.queue, q.id ≠ w.id) :=
  TR.C18.c18_queue_distinct cap input (erase s) (erase_reach hr)

/-- 5. progress: in every reachable state in which the two goroutines have not both returned, some
step OTHER than a roll-over is enabled — the hand-off cannot deadlock, and the roll-over timer is not
needed to keep it going -/
theorem c18r_never_blocked_forever (cap : Nat) (hc : 0 < cap) (input : List (List Nat)) (s : St)
    (hr : Reach (init cap input) s) (hnf : ¬ (s.reader = .done ∧ s.writer = .done)) :
    ∃ t, Step s t ∧ TR.Handoff.Step (erase s) (erase t) := by
  obtain ⟨u, hu⟩ :=
    TR.C18.c18_never_blocked_forever cap hc input (erase s) (erase_reach hr) hnf
  obtain ⟨t, ht, e⟩ := step_lift hu
  exact ⟨t, ht, e ▸ hu⟩

/-- 5'. the roll-over cannot go on for ever on its own account: it is enabled only at the `select`,
and it changes nothing but the file list (so it cannot disable any other step) -/
theorem c18r_roll_is_stutter (cap : Nat) (input : List (List Nat)) (s : St)
    (hr : Reach (init cap input) s) (hw : s.writer = .idle) :
    Step s { s with done := s.done ++ [{ s.cur with closed := true }], cur := ⟨[], false⟩ } ∧
    erase { s with done := s.done ++ [{ s.cur with closed := true }], cur := ⟨[], false⟩ } =
      erase s := by
  refine ⟨.wRoll s hw, ?_⟩
  have ho := c18r_current_open cap input s hr (by rw [hw]; exact WPhase.noConfusion)
  simp only [erase, allOut_roll, ho]

/-- capacity 2, frames f0 = [10], f1 = [11], f2 = [12]; the reader runs ahead (both buffers queued),
the timer fires after f1 has been written while f2 is already waiting in the queue; at the end the
files are `[[f0, f1] closed, [f2] closed]` -/
theorem c18r_example_run :
    ∃ s, Reach (init 2 [[10], [11], [12]]) s ∧ s.reader = .done ∧ s.writer = .done ∧
      files s = [⟨[[10], [11]], true⟩, ⟨[[12]], true⟩] := by
  refine ⟨_, .step (.step (.step (.step (.step (.step (.step (.step (.step (.step (.step (.step
    (.step (.step (.step (.step (.step (.step (.step (.step (.step (.step .refl
    (.rTake _ ⟨0, []⟩ [⟨1, []⟩] rfl rfl)) (.rFill _ ⟨0, []⟩ [10] [[11], [12]] rfl rfl))
    (.rSend _ ⟨0, [10]⟩ rfl (by decide))) (.rTake _ ⟨1, []⟩ [] rfl rfl))
    (.rFill _ ⟨1, []⟩ [11] [[12]] rfl rfl)) (.rSend _ ⟨1, [11]⟩ rfl (by decide)))
    (.wRecv _ ⟨0, [10]⟩ [⟨1, [11]⟩] rfl rfl)) (.wWrite _ ⟨0, [10]⟩ rfl))
    (.wReturn _ ⟨0, [10]⟩ rfl (by decide))) (.rTake _ ⟨0, [10]⟩ [] rfl rfl))
    (.rFill _ ⟨0, [10]⟩ [12] [] rfl rfl)) (.rSend _ ⟨0, [12]⟩ rfl (by decide)))
    (.wRecv _ ⟨1, [11]⟩ [⟨0, [12]⟩] rfl rfl)) (.wWrite _ ⟨1, [11]⟩ rfl))
    (.wReturn _ ⟨1, [11]⟩ rfl (by decide)))
    (.wRoll _ rfl))
    (.wRecv _ ⟨0, [12]⟩ [] rfl rfl)) (.wWrite _ ⟨0, [12]⟩ rfl))
    (.wReturn _ ⟨0, [12]⟩ rfl (by decide))) (.rTake _ ⟨1, [11]⟩ [⟨0, [12]⟩] rfl rfl))
    (.rEOF _ ⟨1, [11]⟩ rfl rfl)) (.wClose _ rfl rfl rfl), rfl, rfl, rfl⟩

/-- the timer firing twice in a row gives an empty (closed) file -/
example : ∃ s, Reach (init 1 []) s ∧ s.writer = .done ∧
    files s = [⟨[], true⟩, ⟨[], true⟩, ⟨[], true⟩] := by
  refine ⟨_, .step (.step (.step (.step (.step .refl (.wRoll _ rfl)) (.wRoll _ rfl))
    (.rTake _ ⟨0, []⟩ [] rfl rfl)) (.rEOF _ ⟨0, []⟩ rfl rfl)) (.wClose _ rfl rfl rfl), rfl, rfl⟩

/-- NEGATIVE example: with the final close bound to the FIRST file (`defer builder.Close()` after the
first `newThermalRaw`), one roll-over is enough to end with the writer returned and the last file —
holding frame [7] — still open: `c18r_flush_on_close` fails for `StepBad` -/
theorem c18r_bad_close_leaves_last_file_open :
    ∃ s, ReachBad (init 1 [[7]]) s ∧ s.reader = .done ∧ s.writer = .done ∧
      files s = [⟨[], true⟩, ⟨[[7]], false⟩] ∧ ¬ (∀ f ∈ files s, f.closed = true) := by
  refine ⟨_, .step (.step (.step (.step (.step (.step (.step (.step (.step (.step .refl
    (.rTake _ ⟨0, []⟩ [] rfl rfl)) (.rFill _ ⟨0, []⟩ [7] [] rfl rfl))
    (.rSend _ ⟨0, [7]⟩ rfl (by decide))) (.wRoll _ rfl)) (.wRecv _ ⟨0, [7]⟩ [] rfl rfl))
    (.wWrite _ ⟨0, [7]⟩ rfl)) (.wReturn _ ⟨0, [7]⟩ rfl (by decide)))
    (.rTake _ ⟨0, [7]⟩ [] rfl rfl)) (.rEOF _ ⟨0, [7]⟩ rfl rfl))
    (.wCloseFirst _ rfl rfl rfl), rfl, rfl, rfl, ?_⟩
  intro h
  have := h ⟨[[7]], false⟩ (by decide)
  cases this

/-- without a roll-over the faulty variant behaves like the correct one (the first file IS the
current file), which is why the fault needs the multi-file model to be seen -/
example : ∃ s, ReachBad (init 1 []) s ∧ s.writer = .done ∧ files s = [⟨[], true⟩] := by
  refine ⟨_, .step (.step (.step .refl (.rTake _ ⟨0, []⟩ [] rfl rfl)) (.rEOF _ ⟨0, []⟩ rfl rfl))
    (.wCloseFirst _ rfl rfl rfl), rfl, rfl⟩

end TR.C18Roll
