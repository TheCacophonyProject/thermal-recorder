import Proofs.C18Format
import Proofs.C18Handoff

/-!
# C18 — thermal-writer stores every frame exactly once, in order, byte-for-byte, in a well-formed
CPTR file, for every interleaving of the reader and writer goroutines; queued frames are flushed
before the file is closed

* Part A (`TR.CPTR`): decoding an encoded file gives back the header fields and the frames.
* Part B (`TR.Handoff`): invariant of the buffer hand-off over all interleavings (`Reach`), with the
  corollaries: output is a prefix of the input, no aliasing, flush on close, progress.

Helper lemmas: `Proofs/C18Format.lean`, `Proofs/C18Handoff.lean` (definitions `ByteList`, `pendingW`,
`pendingR`, `held`, `heldW`, `idsOf`, `consumedOf`, `HInv` live there).
-/
namespace TR.C18

section Format
open TR.CPTR

/-- decoding the encoded file gives back exactly the header fields and the frames, byte for byte -/
theorem c18_format_roundtrip (h : Header) (frames : List (List Nat))
    (hf : ∀ f ∈ frames, f.length < 2 ^ 32) :
    decodeFile (encodeFile h frames) = some (headerFields h, frames) :=
  decodeFile_encodeFile h frames hf

/-- the size byte of every header field and the field count are exact bytes -/
theorem c18_header_wellformed (h : Header) :
    (∀ f ∈ headerFields h, f.data.length < 256) ∧ (headerFields h).length < 256 :=
  ⟨headerFields_size_lt h, by have := (headerFields_length h).2; omega⟩

/-- the numeric header fields read back as the values put in -/
theorem c18_header_readback (h : Header) (ht : h.timestampUs < 2 ^ 64) (hz : h.fps < 256)
    (hx : h.resX < 2 ^ 32) (hy : h.resY < 2 ^ 32) (hi : h.deviceID < 2 ^ 32) :
    (⟨84, le 8 h.timestampUs⟩ : Field) ∈ headerFields h ∧ fromLe (le 8 h.timestampUs) = h.timestampUs ∧
    (⟨90, le 1 h.fps⟩ : Field) ∈ headerFields h ∧ fromLe (le 1 h.fps) = h.fps ∧
    (⟨88, le 4 h.resX⟩ : Field) ∈ headerFields h ∧ fromLe (le 4 h.resX) = h.resX ∧
    (⟨89, le 4 h.resY⟩ : Field) ∈ headerFields h ∧ fromLe (le 4 h.resY) = h.resY ∧
    (⟨73, le 4 h.deviceID⟩ : Field) ∈ headerFields h ∧ fromLe (le 4 h.deviceID) = h.deviceID := by
  refine ⟨?_, fromLe_le_of_lt ht, ?_, fromLe_le_of_lt hz, ?_, fromLe_le_of_lt hx, ?_,
    fromLe_le_of_lt hy, ?_, fromLe_le_of_lt hi⟩ <;>
  simp only [headerFields, List.mem_append, List.mem_cons, true_or, or_true]

/-- a string of at most 255 bytes is stored verbatim -/
theorem c18_header_strings (h : Header) :
    (h.model.length ≤ 255 → (⟨69, h.model⟩ : Field) ∈ headerFields h) ∧
    (h.brand.length ≤ 255 → (⟨66, h.brand⟩ : Field) ∈ headerFields h) ∧
    (h.deviceName.length ≤ 255 → (⟨68, h.deviceName⟩ : Field) ∈ headerFields h) := by
  refine ⟨fun hl => ?_, fun hl => ?_, fun hl => ?_⟩ <;>
  simp only [headerFields, strField, Nat.not_lt.mpr hl, if_false, List.mem_append, List.mem_cons,
    true_or, or_true]

/-- with byte-valued strings and frames the encoded file is a list of bytes -/
theorem c18_file_is_bytes (h : Header) (frames : List (List Nat)) (hm : ByteList h.model)
    (hb : ByteList h.brand) (hd : ByteList h.deviceName) (hfr : ∀ f ∈ frames, ByteList f) :
    ByteList (encodeFile h frames) :=
  encodeFile_byteList h frames hm hb hd hfr

end Format

section Handoff
open TR.Handoff

/-
The buffer ids in {spent, reader, queue, writer} are a permutation of the pool only while the reader has not
returned: `rEOF` moves the reader from `.holding b` to `.done`, and buffer `b` is then in none of the four (in
Go: `handleConn` returns on the read error still holding `frame`).  Hence the partition conjunct of
`c18_handoff_invariant_partial` holds under `s.reader ≠ .done` and in general up to that single lost buffer;
`c18_partition_fails_after_eof` is the path `rTake` ; `rEOF` with cap = 1, input = [], which ends with
`idsOf s = []`, not a permutation of `[0]`.
-/

/-- what was taken off the socket is accounted for in order, and the buffer ids partition the pool while
`s.reader ≠ .done`, and always after adding back at most one `lost` id -/
theorem c18_handoff_invariant_partial (cap : Nat) (_hc : 0 < cap) (input : List (List Nat)) (s : St)
    (hr : Reach (init cap input) s) :
    ∃ consumed, input = consumed ++ s.input ∧
      consumed = s.out ++ pendingW s.writer ++ s.queue.map (·.content) ++ pendingR s.reader ∧
      (s.reader ≠ .done → (idsOf s).Perm (List.range cap)) ∧
      (∃ lost, lost.length ≤ 1 ∧ (idsOf s ++ lost).Perm (List.range cap)) := by
  have h := hinv_reach hr
  refine ⟨consumedOf s, h.content, rfl, h.ids_perm, ?_⟩
  obtain ⟨lost, hp, _, hl⟩ := h.ids
  exact ⟨lost, hl, hp⟩

/-- the buffer ids in {spent, reader-held, queue, writer-held} are distinct pool ids, always -/
theorem c18_ids_nodup (cap : Nat) (input : List (List Nat)) (s : St) (hr : Reach (init cap input) s) :
    (idsOf s).Nodup ∧ ∀ i ∈ idsOf s, i < cap :=
  ⟨(hinv_reach hr).ids_nodup, (hinv_reach hr).ids_lt⟩

/-- once the reader has returned, the ids alone need not be a permutation of the pool -/
theorem c18_partition_fails_after_eof :
    ∃ s, Reach (init 1 []) s ∧ ¬ (idsOf s).Perm (List.range 1) := by
  refine ⟨_, .step (.step .refl (.rTake _ ⟨0, []⟩ [] rfl rfl)) (.rEOF _ ⟨0, []⟩ rfl rfl), ?_⟩
  intro h
  exact absurd h.length_eq (by decide)

/-- 1. what has been written is a prefix of what arrived: every frame at most once, in arrival order,
byte-for-byte -/
theorem c18_out_is_prefix (cap : Nat) (input : List (List Nat)) (s : St)
    (hr : Reach (init cap input) s) : s.out <+: input := by
  have h := (hinv_reach hr).content
  refine ⟨pendingW s.writer ++ s.queue.map (·.content) ++ pendingR s.reader ++ s.input, ?_⟩
  rw [h]; simp only [consumedOf, List.append_assoc]

/-- 2. the buffer the reader is about to fill (or has filled and not yet sent) is not one of the
buffers waiting in the queue, nor the one the writer holds or has just written, nor still in the
spent channel -/
theorem c18_no_aliasing (cap : Nat) (input : List (List Nat)) (s : St) (hr : Reach (init cap input) s)
    (b : Buf) (hb : s.reader = .holding b ∨ s.reader = .filled b) :
    (∀ q ∈ s.queue, q.id ≠ b.id) ∧
    (∀ w, s.writer = .holding w ∨ s.writer = .written w → w.id ≠ b.id) ∧
    (∀ q ∈ s.spent, q.id ≠ b.id) := by
  have hmem : b.id ∈ held s.reader := by
    rcases hb with hb | hb <;> rw [hb] <;> exact List.mem_singleton.mpr rfl
  obtain ⟨h1, h2, h3⟩ := (hinv_reach hr).reader_id_unique hmem
  refine ⟨fun q hq e => h2 (e ▸ List.mem_map_of_mem hq), ?_, fun q hq e => h1 (e ▸ List.mem_map_of_mem hq)⟩
  intro w hw e
  apply h3
  rcases hw with hw | hw <;> rw [hw] <;> exact List.mem_singleton.mpr e.symm

/-- 2'. the frames waiting to be written sit in pairwise distinct buffers, none of which is the
buffer being written or a buffer available for reuse -/
theorem c18_queue_distinct (cap : Nat) (input : List (List Nat)) (s : St)
    (hr : Reach (init cap input) s) :
    (s.queue.map (·.id)).Nodup ∧ (∀ q ∈ s.queue, ∀ p ∈ s.spent, q.id ≠ p.id) ∧
    (∀ w, s.writer = .holding w ∨ s.writer = .written w → ∀ q ∈ s.queue, q.id ≠ w.id) := by
  have h := hinv_reach hr
  obtain ⟨h1, _, h3⟩ := h.queue_spent_disjoint
  refine ⟨h1, fun q hq p hp e => h3 q.id (List.mem_map_of_mem hq) (e ▸ List.mem_map_of_mem hp), ?_⟩
  intro w hw q hq e
  have hmem : w.id ∈ heldW s.writer := by
    rcases hw with hw | hw <;> rw [hw] <;> exact List.mem_singleton.mpr rfl
  exact (h.writer_id_unique hmem).2.1 (e ▸ List.mem_map_of_mem hq)

/-- 3. when the file is closed the reader has returned, nothing is queued or in anybody's hand, and
every frame that arrived has been written -/
theorem c18_flush_on_close (cap : Nat) (input : List (List Nat)) (s : St)
    (hr : Reach (init cap input) s) (hcl : s.fileClosed = true) :
    s.reader = .done ∧ s.writer = .done ∧ s.queue = [] ∧ s.out = input := by
  have h := hinv_reach hr
  have hw : s.writer = .done := h.fileClosed_iff.mp hcl
  obtain ⟨hc, hq⟩ := h.wdone hw
  have hrd : s.reader = .done := h.closed_iff.mp hc
  refine ⟨hrd, hw, hq, ?_⟩
  have := h.content
  simp only [consumedOf, hw, hrd, hq, h.done_input hrd, pendingW, pendingR, List.map_nil,
    List.append_nil] at this
  exact this.symm

/-- the file is closed only after the queue has been closed, and nothing is enqueued after that -/
theorem c18_closed_iff_reader_done (cap : Nat) (input : List (List Nat)) (s : St)
    (hr : Reach (init cap input) s) :
    (s.closed = true ↔ s.reader = .done) ∧ (s.fileClosed = true ↔ s.writer = .done) ∧
    (s.writer = .done → s.closed = true ∧ s.queue = []) ∧ (s.reader = .done → s.input = []) :=
  let h := hinv_reach hr
  ⟨h.closed_iff, h.fileClosed_iff, h.wdone, h.done_input⟩

/-- 4a. the two sends never block: the sender itself holds one of the `cap` buffers, so the
channel it sends to (capacity `cap`) cannot be full -/
theorem c18_send_never_blocks (cap : Nat) (input : List (List Nat)) (s : St)
    (hr : Reach (init cap input) s) :
    (∀ b, s.reader = .filled b → s.queue.length < s.cap) ∧
    (∀ b, s.writer = .written b → s.spent.length < s.cap) := by
  have h := hinv_reach hr
  obtain ⟨k, _, _, hlen⟩ := h.ids_length
  rw [h.cap_eq]
  constructor
  · intro b hb
    simp only [hb, held, List.length_cons, List.length_nil] at hlen
    omega
  · intro b hb
    simp only [hb, heldW, List.length_cons, List.length_nil] at hlen
    omega

/-- 4b. the reader waits for a spent buffer only while the writer has work to do -/
theorem c18_take_blocked_only_while_writer_busy (cap : Nat) (hc : 0 < cap) (input : List (List Nat))
    (s : St) (hr : Reach (init cap input) s) (hi : s.reader = .idle) (hs : s.spent = []) :
    s.queue ≠ [] ∨ ∃ b, s.writer = .holding b ∨ s.writer = .written b := by
  have h := hinv_reach hr
  obtain ⟨k, _, hk, hlen⟩ := h.ids_length
  have hk0 : k = 0 := hk (by rw [hi]; exact fun e => by cases e)
  cases hw : s.writer with
  | holding b => exact .inr ⟨b, .inl rfl⟩
  | written b => exact .inr ⟨b, .inr rfl⟩
  | idle | done =>
    left; intro hq
    simp only [hi, hs, hq, hw, hk0, held, heldW, List.length_nil] at hlen
    omega

/-- 4. progress: in every reachable state in which the two goroutines have not both returned, some
step is enabled — the hand-off cannot deadlock -/
theorem c18_never_blocked_forever (cap : Nat) (hc : 0 < cap) (input : List (List Nat)) (s : St)
    (hr : Reach (init cap input) s) (hnf : ¬ (s.reader = .done ∧ s.writer = .done)) :
    ∃ t, Step s t := by
  have h := hinv_reach hr
  obtain ⟨hsendR, hsendW⟩ := c18_send_never_blocks cap input s hr
  -- the writer can move unless it is idle with an empty open queue, or done
  have writerMoves : s.writer ≠ .done → (s.writer = .idle → s.queue = [] → s.closed = true) →
      ∃ t, Step s t := by
    intro hnd hidle
    cases hw : s.writer with
    | idle =>
      cases hq : s.queue with
      | nil => exact ⟨_, .wClose s hw hq (hidle hw hq)⟩
      | cons b rest => exact ⟨_, .wRecv s b rest hw hq⟩
    | holding b => exact ⟨_, .wWrite s b hw⟩
    | written b => exact ⟨_, .wReturn s b hw (hsendW b hw)⟩
    | done => exact absurd hw hnd
  cases hrd : s.reader with
  | holding b =>
    cases hin : s.input with
    | nil => exact ⟨_, .rEOF s b hrd hin⟩
    | cons f more => exact ⟨_, .rFill s b f more hrd hin⟩
  | filled b => exact ⟨_, .rSend s b hrd (hsendR b hrd)⟩
  | done =>
    exact writerMoves (fun hw => hnf ⟨hrd, hw⟩) (fun _ _ => h.closed_iff.mpr hrd)
  | idle =>
    cases hsp : s.spent with
    | cons b rest => exact ⟨_, .rTake s b rest hrd hsp⟩
    | nil =>
      have hbusy := c18_take_blocked_only_while_writer_busy cap hc input s hr hrd hsp
      apply writerMoves
      · intro hw
        have := h.closed_iff.mp (h.wdone hw).1
        rw [hrd] at this; cases this
      · intro hw hq
        rcases hbusy with hb | ⟨b, hb⟩
        · exact absurd hq hb
        · rw [hw] at hb; rcases hb with hb | hb <;> cases hb

end Handoff

section Examples
open TR.CPTR TR.Handoff

/-- a concrete file: magic, version 2, 'H', 9 fields, …, then two frame sections -/
example : encodeFile exHeader [[1, 2, 3], []] =
    [67, 80, 84, 82, 2, 72, 9,
     8, 84, 0, 224, 37, 218, 254, 91, 6, 0,   3, 69, 108, 101, 112,   1, 66, 102,   1, 90, 9,
     4, 88, 160, 0, 0, 0,   4, 89, 120, 0, 0, 0,   1, 67, 0,   0, 68,   4, 73, 7, 0, 0, 0,
     70, 1, 4, 102, 3, 0, 0, 0, 1, 2, 3,
     70, 1, 4, 102, 0, 0, 0, 0] := by decide +kernel

example : decodeFile (encodeFile exHeader [[1, 2, 3], []]) =
    some (headerFields exHeader, [[1, 2, 3], []]) := by decide +kernel

/-- the decoder is not trivially accepting: a truncated file is rejected -/
example : decodeFile ((encodeFile exHeader [[1, 2, 3]]).dropLast) = none := by decide +kernel

/-- a string longer than 255 bytes is dropped from the header (as in `newThermalRaw`) -/
example (s : List Nat) (h : s.length > 255) :
    (headerFields { exHeader with model := s }).length = 8 := by
  simp only [headerFields, strField, h, if_true, exHeader]; rfl

/-- a complete run with a pool of one buffer: both frames are written, then the file is closed -/
example : ∃ s, Reach (init 1 [[7], [8, 9]]) s ∧ s.fileClosed = true ∧ s.out = [[7], [8, 9]] := by
  refine ⟨_, .step (.step (.step (.step (.step (.step (.step (.step (.step (.step (.step (.step
    (.step (.step (.step .refl
    (.rTake _ ⟨0, []⟩ [] rfl rfl)) (.rFill _ ⟨0, []⟩ [7] [[8, 9]] rfl rfl))
    (.rSend _ ⟨0, [7]⟩ rfl (by decide))) (.wRecv _ ⟨0, [7]⟩ [] rfl rfl)) (.wWrite _ ⟨0, [7]⟩ rfl))
    (.wReturn _ ⟨0, [7]⟩ rfl (by decide))) (.rTake _ ⟨0, [7]⟩ [] rfl rfl))
    (.rFill _ ⟨0, [7]⟩ [8, 9] [] rfl rfl)) (.rSend _ ⟨0, [8, 9]⟩ rfl (by decide)))
    (.wRecv _ ⟨0, [8, 9]⟩ [] rfl rfl)) (.wWrite _ ⟨0, [8, 9]⟩ rfl))
    (.wReturn _ ⟨0, [8, 9]⟩ rfl (by decide))) (.rTake _ ⟨0, [8, 9]⟩ [] rfl rfl))
    (.rEOF _ ⟨0, [8, 9]⟩ rfl rfl)) (.wClose _ rfl rfl rfl), rfl, rfl⟩

/-- the writer lagging as far as it can (pool of two): both buffers queued, nothing written yet, the
reader waits for a spent buffer — and the only enabled step is the writer's -/
example : ∃ s, Reach (init 2 [[1], [2], [3]]) s ∧ s.queue.map (·.content) = [[1], [2]] ∧
    s.out = [] ∧ s.spent = [] ∧ s.reader = .idle ∧ s.input = [[3]] := by
  refine ⟨_, .step (.step (.step (.step (.step (.step .refl
    (.rTake _ ⟨0, []⟩ [⟨1, []⟩] rfl rfl)) (.rFill _ ⟨0, []⟩ [1] [[2], [3]] rfl rfl))
    (.rSend _ ⟨0, [1]⟩ rfl (by decide))) (.rTake _ ⟨1, []⟩ [] rfl rfl))
    (.rFill _ ⟨1, []⟩ [2] [[3]] rfl rfl)) (.rSend _ ⟨1, [2]⟩ rfl (by decide)),
    rfl, rfl, rfl, rfl, rfl⟩

end Examples

end TR.C18
