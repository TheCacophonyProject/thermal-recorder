import Proofs.DetC09
/-!
# C09 — FFC quiet period; detection does not depend on frames from before an FFC period / a reset

"No frame taken within 10 s after a flat-field correction (FFC), nor the frame directly following
that period, is ever reported as motion.  Once an FFC period has passed - or, with a fixed
threshold, after a camera reset - detection results no longer depend on the content of any frame
from before it."

In the model a frame event carries the flag `ffc` (= the frame was taken within the FFC period).

* (a) `c09a_step`, `c09a_affected`, `c09a_run`: quiet frames.  Every configuration, every event list.
* (c) `c09c_reset_independence`: fixed threshold, two prefixes of the same shape (same constructors
  and FFC flags, arbitrary frame contents), then `Reset`, then any common suffix: same verdicts.
* (b) `c09b_ffc_independence_fixed`: the same with an FFC-affected frame instead of the `Reset`.
  `c09b_ffc_independence_dynamic_partial`: any threshold mode, but no `Reset` in the prefix or the
  suffix.  The full statement for the dynamic threshold is false (finding F7: `Reset` zeroes
  `backgroundFrames` but keeps `tempThresh`); the counterexample is checked below.

The hypothesis `1 ≤ c.countThresh` of the statements is not used by the proofs: right after a
`Reset` the frame is compared with itself, so the pixel count is 0 in *both* runs and the verdicts
agree whatever `countThresh` is.  `SameShape` (same constructors and FFC flags, arbitrary frame
contents) is defined in `Proofs/DetC09.lean`.
-/
namespace TR.C09

/-! ## (a) quiet frames -/

/-- A frame that is FFC-affected, or whose predecessor was, is never reported as motion. -/
theorem c09a_step (F : FloatOps) (c : DCfg) (d : Det F) (f : Frame) (ffc : Bool)
    (h : ffc = true ∨ d.affected = true) : (Det.detect c d f ffc).2 = false :=
  Det.detect_quiet c d f ffc (Or.inr h)

/-- The detector remembers exactly the FFC flag of the last frame. -/
theorem c09a_affected (F : FloatOps) (c : DCfg) (d : Det F) (f : Frame) (ffc : Bool) :
    (Det.detect c d f ffc).1.affected = ffc :=
  Det.detect_affected c d f ffc

/-- which outputs must be false: the frame is FFC-affected or the previous frame (resets skipped) was -/
def mustBeQuiet : Bool → List DEv → List Bool
  | _, [] => []
  | prev, .frame _ ffc :: es => (ffc || prev) :: mustBeQuiet ffc es
  | prev, .reset :: es => mustBeQuiet prev es

/-- (a) from an arbitrary detector state -/
theorem c09a_run_from (F : FloatOps) (c : DCfg) (evs : List DEv) (d : Det F) (i : Nat)
    (h : (mustBeQuiet d.affected evs)[i]? = some true) : (Det.outputs c d evs)[i]? = some false := by
  induction evs generalizing d i with
  | nil => simp [mustBeQuiet] at h
  | cons e es ih =>
    cases e with
    | frame f ffc =>
      simp only [Det.outputs, Det.stepEv]
      simp only [mustBeQuiet] at h
      cases i with
      | zero =>
        simp only [List.getElem?_cons_zero, Option.some.injEq, Bool.or_eq_true] at h ⊢
        exact c09a_step F c d f ffc h
      | succ j =>
        simp only [List.getElem?_cons_succ] at h ⊢
        apply ih
        rw [c09a_affected]
        exact h
    | reset =>
      simp only [Det.outputs, Det.stepEv]
      simp only [mustBeQuiet] at h
      exact ih d.reset i h

/-- (a) No frame within an FFC period, nor the frame following it, is reported as motion —
every configuration, every event list (resets anywhere). -/
theorem c09a_run (F : FloatOps) (c : DCfg) (evs : List DEv) (i : Nat)
    (h : (mustBeQuiet false evs)[i]? = some true) :
    (Det.outputs c (Det.init F c) evs)[i]? = some false :=
  c09a_run_from F c evs (Det.init F c) i h

/-! ## (c), (b) independence of earlier frames -/

def NoReset (evs : List DEv) : Prop := ∀ e ∈ evs, e ≠ .reset

/-- (c) Fixed threshold: after a `Reset` the verdicts do not depend on the content of any earlier frame. -/
theorem c09c_reset_independence (F : FloatOps) (c : DCfg) (hdyn : c.dynamic = false)
    (hcount : 1 ≤ c.countThresh) (preA preB post : List DEv) (hs : SameShape preA preB) :
    Det.outputs c (Det.after c (Det.init F c) preA) (.reset :: post) =
    Det.outputs c (Det.after c (Det.init F c) preB) (.reset :: post) :=
  have _ := hcount
  P09.outputs_after_reset c hdyn preA preB post (P09.sameShape_flags hs _)

/-- (b) Fixed threshold: from the first FFC-affected frame on, the verdicts do not depend on the
content of any earlier frame (the suffix may contain further FFC periods and resets). -/
theorem c09b_ffc_independence_fixed (F : FloatOps) (c : DCfg) (hdyn : c.dynamic = false)
    (hcount : 1 ≤ c.countThresh) (preA preB : List DEv) (hs : SameShape preA preB) (f : Frame)
    (rest : List DEv) :
    Det.outputs c (Det.after c (Det.init F c) preA) (.frame f true :: rest) =
    Det.outputs c (Det.after c (Det.init F c) preB) (.frame f true :: rest) := by
  have _ := hcount
  obtain ⟨gA, gB, sh⟩ := P09.shape_after F c hs
  exact P09.outputs_after_ffc c _ _ gA gB sh f rest
    (Or.inl (P09.fixed_dynOK c _ _ (PipeC09.fixed_after F c hdyn preA) (PipeC09.fixed_after F c hdyn preB)))

/-- (b) Any threshold mode (fixed or dynamic), no `Reset` before or after: from the first
FFC-affected frame on, the verdicts do not depend on the content of any earlier frame.
Partial: the statement without `hnr`, `hnr'` is false for the dynamic threshold (F7, see below). -/
theorem c09b_ffc_independence_dynamic_partial (F : FloatOps) (c : DCfg) (hcount : 1 ≤ c.countThresh)
    (preA preB : List DEv) (hs : SameShape preA preB) (hnr : NoReset preA) (f : Frame)
    (rest : List DEv) (hnr' : NoReset rest) :
    Det.outputs c (Det.after c (Det.init F c) preA) (.frame f true :: rest) =
    Det.outputs c (Det.after c (Det.init F c) preB) (.frame f true :: rest) := by
  cases hdyn : c.dynamic
  · exact c09b_ffc_independence_fixed F c hdyn hcount preA preB hs f rest
  · obtain ⟨gA, gB, sh⟩ := P09.shape_after F c hs
    have u0 : P09.U c (Det.init F c) := ⟨fun _ => rfl, fun _ _ _ => rfl⟩
    exact P09.outputs_after_ffc c _ _ gA gB sh f rest
      (Or.inr ⟨hdyn, P09.pre_u c preA _ hnr u0, P09.pre_u c preB _ (P09.sameShape_noReset hs hnr) u0, hnr'⟩)

/-! ## Non-vacuity, and the F7 counterexample -/

/-- exact toy arithmetic: weights and mean in `Nat` (with one interior pixel the mean is the pixel) -/
private def natOps : FloatOps :=
  { ω := Nat, w0 := 0, lower := fun new w bg => decide (new < bg + w), bump := (· + 1),
    α := Nat, a0 := 0, add := fun _ acc px => acc + px, trunc := fun a => a }

/-- 1×1 image, compare with the previous frame, one diff, 1 changed pixel over delta 5 = motion -/
private def cfg (dyn : Bool) : DCfg :=
  { resX := 1, resY := 1, edge := 0, gap := 1, useOneDiff := true, deltaThresh := 5, countThresh := 1,
    tempThresh := 0, threshMin := 0, threshMax := 0, warmerOnly := false, dynamic := dyn,
    previewFrames := 1, ffcPeriod := 0 }

private def fr (v : Nat) (ffc : Bool := false) : DEv := .frame (fun _ _ => v) ffc

private def run (dyn : Bool) (evs : List DEv) : List Bool :=
  Det.outputs (cfg dyn) (Det.init natOps (cfg dyn)) evs

/-- (a): the mask is neither all-true nor all-false, motion is reported outside it, and a jump of the
same size inside the period / right after it is not -/
example : mustBeQuiet false [fr 0, fr 100, fr 200 true, fr 300 true, fr 400, fr 500, fr 600] =
    [false, false, true, true, true, false, false] := by decide
example : run false [fr 0, fr 100, fr 200 true, fr 300 true, fr 400, fr 500, fr 600] =
    [false, true, false, false, false, false, true] := by decide

private def preA : List DEv := [fr 1001, fr 1000]
private def preB : List DEv := [fr 1, fr 0]
example : SameShape preA preB := .frame (.frame .nil)
example : NoReset preA := by unfold NoReset preA fr; intro e he; simp at he; rcases he with rfl | rfl <;> simp

/-- without a reset or an FFC period the verdicts do depend on the earlier frames (fixed threshold) -/
example : run false (preA ++ [fr 500]) = [false, false, true] ∧
    run false (preB ++ [fr 500]) = [false, false, true] ∧
    run false (preA ++ [fr 1000]) = [false, false, false] ∧
    run false (preB ++ [fr 1000]) = [false, false, true] := by decide

/-- (c), (b) on these prefixes: equal and not constantly false -/
example : run false (preA ++ [.reset, fr 10, fr 500]) = [false, false, false, true] ∧
    run false (preB ++ [.reset, fr 10, fr 500]) = [false, false, false, true] := by decide
example : run false (preA ++ [fr 10 true, fr 10, fr 10, fr 500]) = [false, false, false, false, false, true] ∧
    run false (preB ++ [fr 10 true, fr 10, fr 10, fr 500]) = [false, false, false, false, false, true] := by
  decide
/-- dynamic threshold, no reset: equal and not constantly false -/
example : run true (preA ++ [fr 10 true, fr 10, fr 10, fr 500]) = [false, false, false, false, false, true] ∧
    run true (preB ++ [fr 10 true, fr 10, fr 10, fr 500]) = [false, false, false, false, false, true] := by
  decide

/-- **F7**: with the dynamic threshold, `c09b` without `NoReset preA` is false.  `previewFrames = 1`;
the second frame of the prefix lowers the background, so the threshold is recomputed from the
prefix (1000 in run A, 0 in run B).  `Reset` zeroes `backgroundFrames` but keeps that threshold; the
frames after the FFC period are background frames 1 and 2 (≤ `previewFrames`, resp. unchanged), so
the stale threshold decides: run A floors 10 and 500 to 1000 (no motion), run B reports motion. -/
example : SameShape (preA ++ [.reset]) (preB ++ [.reset]) := .frame (.frame (.reset .nil))
example : run true ((preA ++ [.reset]) ++ [fr 10 true, fr 10, fr 500]) = [false, false, false, false, false] ∧
    run true ((preB ++ [.reset]) ++ [fr 10 true, fr 10, fr 500]) = [false, false, false, false, true] := by
  decide
/-- the same with the `Reset` inside the FFC period (`NoReset rest` violated) -/
example : run true (preA ++ [fr 10 true, .reset, fr 10, fr 500]) = [false, false, false, false, false] ∧
    run true (preB ++ [fr 10 true, .reset, fr 10, fr 500]) = [false, false, false, false, true] := by
  decide
/-- and (c) with the dynamic threshold: the verdicts after a `Reset` depend on the frames before it -/
example : run true (preA ++ [.reset, fr 10, fr 500]) = [false, false, false, false] ∧
    run true (preB ++ [.reset, fr 10, fr 500]) = [false, false, false, true] := by decide

end TR.C09
