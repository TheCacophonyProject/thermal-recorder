import Generated.Facts
/-! # Source facts — C14: marker, probe length and header keys/values agreed between the daemons -/
namespace TR.FactsWiring
open Facts

/-- C14: both daemons use the same marker, the recorder probes exactly as many bytes as the marker has,
and reads frames with io.ReadFull (probe + rest) -/
theorem marker_agreement : recorderClear = leptondClear ∧ recorderClear.utf8ByteSize = probeLen ∧
    recorderReadFullCalls = 2 ∧ recorderMarkerTest = "message == clearBuffer" ∧
    leptondMarkerSend = "conn.Write([]byte(clearBuffer))" :=
  ⟨rfl, rfl, rfl, rfl, rfl⟩

/-- C14: the recorder reads every header key the camera daemon writes; a blank line ends the header -/
theorem header_keys_agree : leptondHeaderKeys = recorderHeaderKeys ∧
    headerBlankLineTest = "strings.Trim(line, \" \") == \"\\n\"" := ⟨rfl, rfl⟩

/-- C14: the camera daemon describes the camera with the camera's own values (resolution, frame size, fps,
brand from the lepton3 package; model, 64-bit serial and firmware as read from the camera) -/
theorem leptond_header_values : leptondHeaderValues =
    "headers.Brand:lepton3.Brand;headers.FPS:camera.FPS();headers.Firmware:firmware;headers.FrameSize:lepton3.BytesPerFrame;headers.Model:model;headers.Serial:serial;headers.XResolution:camera.ResX();headers.YResolution:camera.ResY()" :=
  rfl

end TR.FactsWiring
