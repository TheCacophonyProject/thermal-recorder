import Generated.Facts
/-! # Source facts — C05 C06 C11: how handleConn wires the throttle -/
namespace TR.FactsWiring
open Facts

/-- C05: the throttle wraps the motion recorder iff `thermal-throttler.activate`, its minimum clip is
min-secs + preview-secs, and the continuous recorder is a plain (unthrottled) file recorder -/
theorem throttle_wiring : throttleGuardExpr = "conf.Throttler.Activate" ∧
    throttleMinSecsExpr = "conf.Recorder.MinSecs + conf.Recorder.PreviewSecs" ∧
    constantRecorderCtor = "NewCPTVFileRecorder" := ⟨rfl, rfl, rfl⟩

end TR.FactsWiring
