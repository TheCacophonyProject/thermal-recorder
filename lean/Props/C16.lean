import Proofs.ConcC16
/-!
# C16 — a snapshot served concurrently with frame processing observes a whole frame

Model: `TR/Conc.lean`.  The frame thread writes the words of frame `n` into slot `cur` of the ring
WITHOUT `FrameLoop.mu` (the parser fills `frameLoop.Current()`), then atomically locks, `Move`s and
unlocks.  The requester (`GetRecentFrame` → `CopyRecent`) takes the lock, copies the slot before the
current one word by word, and unlocks.  `Step content` is one atomic action of either thread, a
path `Reach content s0 s` is an arbitrary interleaving; frame `k` has word `i` equal to
`content k i`.

Quantifiers: every capacity `size ≥ 2`, every frame
size `words`, every `content`, every interleaving.

`s.nAtLock` is the number of completed frames at the moment the requester took the lock, so
"frame `nAtLock − 1`" is the last frame whose processing (`Move`) had completed at that moment.
If `nAtLock = 0` no frame had completed and there is no frame to return (hypothesis `h1`).

The second half ties the model to the source: the lockset check `racyVars` evaluated on the access
table regenerated from the Go source (`Facts.accesses`) reports no unprotected conflicting pair on
any ring variable, and `c16_common_lock_orders_accesses` is the reason a common lock matters.
-/
namespace TR.C16
open TR.Conc

/-! ## 1. The snapshot is one whole frame -/

/-- **C16.** For every capacity ≥ 2, every frame size, every frame contents and EVERY interleaving:
when a request has finished, its copy is exactly frame `nAtLock − 1`, the last frame completed when
the lock was taken (a whole frame, never a mixture). -/
theorem c16_snapshot_is_whole_frame (content : Nat → Nat → Nat) (size words : Nat) (h2 : 2 ≤ size)
    (s : St) (hr : Reach content (init size words) s) (hd : s.r = .done) (h1 : 1 ≤ s.nAtLock) :
    ∀ i, i < words → s.copy i = content (s.nAtLock - 1) i := by
  have h := (cinv_reach h2 hr).hreq
  rw [hd] at h
  exact h.2 h1

/-- While the copy is in progress the words already copied are words of that same frame, and no
`Move` has happened since the lock was taken. -/
theorem c16_partial_copy_is_prefix (content : Nat → Nat → Nat) (size words : Nat) (h2 : 2 ≤ size)
    (s : St) (hr : Reach content (init size words) s) (slot pos : Nat)
    (hrd : s.r = .reading slot pos) (h1 : 1 ≤ s.nAtLock) :
    s.n = s.nAtLock ∧ ∀ i, i < pos → s.copy i = content (s.nAtLock - 1) i := by
  have h := (cinv_reach h2 hr).hreq
  rw [hrd] at h
  exact ⟨h.2.1, (h.2.2.2 h1).2⟩

/-! ## 2. The frame returned is the most recent at request time, or newer -/

/-- `n` (the number of completed frames) never decreases. -/
theorem c16_completed_frames_monotone (content : Nat → Nat → Nat) (s t : St)
    (h : Reach content s t) : s.n ≤ t.n := n_mono_reach h

/-- If the request is made in state `s` (requester idle, `s.n` frames completed) and is finished in
a later state `t`, the lock was taken when at least `s.n` frames had completed.  (The reachability
of `s` is not needed for this part.) -/
theorem c16_snapshot_not_older_than_request (content : Nat → Nat → Nat) (size words : Nat)
    (s t : St) (_hr : Reach content (init size words) s) (hi : s.r = .idle)
    (hst : Reach content s t) (hd : t.r = .done) : s.n ≤ t.nAtLock := by
  rcases (fresh_reach hst hi).2 with h | h
  · rw [hd] at h; exact absurd h (by simp)
  · exact h

/-- **C16, both halves together.**  A request made when frames `0 … s.n − 1` had completed returns
exactly frame `k` for some `k ≥ s.n − 1` (`k = t.nAtLock − 1`) that had completed when it returned. -/
theorem c16_snapshot_whole_and_fresh (content : Nat → Nat → Nat) (size words : Nat) (h2 : 2 ≤ size)
    (s t : St) (hr : Reach content (init size words) s) (hi : s.r = .idle) (hn : 1 ≤ s.n)
    (hst : Reach content s t) (hd : t.r = .done) :
    ∃ k, s.n - 1 ≤ k ∧ k < t.n ∧ ∀ i, i < words → t.copy i = content k i := by
  have hfresh := c16_snapshot_not_older_than_request content size words s t hr hi hst hd
  have hrt := reach_trans hr hst
  refine ⟨t.nAtLock - 1, by omega, ?_, ?_⟩
  · have := (cinv_reach h2 hrt).hatlock
    omega
  · exact c16_snapshot_is_whole_frame content size words h2 t hrt hd (by omega)

/-! ## 3. The requester holds the lock for exactly `words` reads; the writer never needs it -/

/-- In every reachable state in which the requester holds the lock it can take a step: another read
while `pos < words`, the unlock when `pos = words` (and `pos ≤ words` always). -/
theorem c16_request_never_stalls_pipeline (content : Nat → Nat → Nat) (size words : Nat)
    (h2 : 2 ≤ size) (s : St) (hr : Reach content (init size words) s) (slot pos : Nat)
    (hrd : s.r = .reading slot pos) :
    pos ≤ words ∧
    (pos < words → ∃ t, Step content s t ∧ t.r = .reading slot (pos + 1) ∧ t.lockedByReq = true) ∧
    (pos = words → ∃ t, Step content s t ∧ t.r = .done ∧ t.lockedByReq = false) := by
  have hinv := cinv_reach h2 hr
  have hq := hinv.hreq
  rw [hrd] at hq
  obtain ⟨hl, _, hp, _⟩ := hq
  refine ⟨hp, ?_, ?_⟩
  · intro hlt
    exact ⟨_, Step.rRead s slot pos hrd (by rw [hinv.hwords]; exact hlt), rfl, hl⟩
  · intro he
    subst he
    exact ⟨_, Step.rUnlock s slot (by rw [hinv.hwords]; exact hrd), rfl, rfl⟩

/-- The frame thread can always write the next word of the incoming frame, whoever holds the lock;
it waits only at the `Move`, and only while the requester holds the lock. -/
theorem c16_frame_thread_progress (content : Nat → Nat → Nat) (s : St) :
    (s.fpos < s.words → ∃ t, Step content s t ∧ t.fpos = s.fpos + 1) ∧
    (s.fpos = s.words → s.lockedByReq = false → ∃ t, Step content s t ∧ t.n = s.n + 1) :=
  ⟨fun h => ⟨_, Step.fWrite s h, rfl⟩, fun h hl => ⟨_, Step.fMove s h hl, rfl⟩⟩

/-! ## 4. Non-vacuity, and why capacity ≥ 2 matters -/

/-- With capacity 2 the interleaved schedule (frame 0 is written and moved, the requester locks and
copies word 0, the frame thread writes both words of frame 1 into the current slot, the requester
copies word 1 and unlocks) is a path of the model and ends with the requester done, `nAtLock = 1` and
the copy equal to frame 0 — the hypotheses of `c16_snapshot_is_whole_frame` are satisfiable. -/
example : ∃ s, Reach demoContent (init 2 2) s ∧ s.r = .done ∧ s.nAtLock = 1 ∧ s.fpos = 2 ∧
    s.copy 0 = 1 ∧ s.copy 1 = 1 := by
  refine ⟨_,
    Reach.step (Reach.step (Reach.step (Reach.step (Reach.step (Reach.step (Reach.step (Reach.step
      (Reach.step Reach.refl
      (Step.fWrite _ (by decide)))
      (Step.fWrite _ (by decide)))
      (Step.fMove _ (by decide) (by decide)))
      (Step.rLock _ (by decide) (by decide)))
      (Step.rRead _ _ 0 rfl (by decide)))
      (Step.fWrite _ (by decide)))
      (Step.fWrite _ (by decide)))
      (Step.rRead _ _ 1 rfl (by decide)))
      (Step.rUnlock _ _ rfl),
    rfl, rfl, rfl, ?_, ?_⟩ <;> decide

/-- **Capacity 1 tears.**  With a single slot the "slot before the current one" IS the current
slot, which the frame thread is writing without the lock: the same schedule returns word 0 of
frame 0 and word 1 of frame 1. -/
theorem c16_capacity_one_can_tear : ∃ s, Reach demoContent (init 1 2) s ∧ s.r = .done ∧
    s.nAtLock = 1 ∧ s.copy 0 = demoContent 0 0 ∧ s.copy 1 = demoContent 1 1 ∧ s.copy 0 ≠ s.copy 1 := by
  refine ⟨_,
    Reach.step (Reach.step (Reach.step (Reach.step (Reach.step (Reach.step (Reach.step (Reach.step
      (Reach.step Reach.refl
      (Step.fWrite _ (by decide)))
      (Step.fWrite _ (by decide)))
      (Step.fMove _ (by decide) (by decide)))
      (Step.rLock _ (by decide) (by decide)))
      (Step.rRead _ _ 0 rfl (by decide)))
      (Step.fWrite _ (by decide)))
      (Step.fWrite _ (by decide)))
      (Step.rRead _ _ 1 rfl (by decide)))
      (Step.rUnlock _ _ rfl),
    rfl, rfl, ?_, ?_, ?_⟩ <;> decide

/-! ## 5. The lockset check on the access table regenerated from the source -/

/-- The variables with an unprotected conflicting pair of accesses in the current source. -/
theorem c16_racy_variables :
    racyVars Facts.accesses = ["CurrentFrame", "StartSnapshot", "headerInfo", "processor"] :=
  racy_accesses

/-- None of the ring's variables is among them: every pair of conflicting accesses to the ring from
different threads shares `FrameLoop.mu`. -/
theorem c16_ring_accesses_protected :
    ∀ v ∈ ["frameLoop.currentIndex", "frameLoop.bufferFull", "frameLoop.oldest", "frameLoop.frames"],
      v ∉ racyVars Facts.accesses := by
  rw [c16_racy_variables]
  decide +kernel

/-- The check is not vacuous: the table does contain cross-thread accesses to the ring. -/
example : ("service", "frameLoop.frames", "R", "FrameLoop.mu+snapshot.mu") ∈ Facts.accesses ∧
    ("frame", "frameLoop.currentIndex", "W", "FrameLoop.mu") ∈ Facts.accesses := by
  decide +kernel

/-! ## 6. Why a common lock is enough -/

open Lock in
/-- **Lockset soundness.**  Events are `acq t l | rel t l | acc t v w`; `HoldsAfter tr t l` says
that the prefix `tr` is a possible mutex history (no acquire of a held lock, no release by a
non-holder) after which thread `t` holds lock `l`.  If thread `t1` accesses `v` while holding `l`
and a different thread `t2` later accesses `v` while holding `l` too, then the events between the
two accesses contain `rel t1 l` followed by `acq t2 l`: the accesses are ordered by the mutex's
release → acquire edge (happens-before), hence not concurrent. -/
theorem c16_common_lock_orders_accesses (pre mid post : List Ev) (t1 t2 v l : Nat) (w1 w2 : Bool)
    (_hwf : WF (pre ++ Ev.acc t1 v w1 :: (mid ++ Ev.acc t2 v w2 :: post)))
    (h1 : HoldsAfter pre t1 l) (h2 : HoldsAfter (pre ++ Ev.acc t1 v w1 :: mid) t2 l)
    (hne : t1 ≠ t2) :
    ∃ m1 m2 m3, mid = m1 ++ Ev.rel t1 l :: (m2 ++ Ev.acq t2 l :: m3) :=
  common_lock_orders pre mid t1 t2 v l w1 h1 h2 hne

open Lock in
/-- non-vacuity: thread 1 writes `v=7` under lock 0, releases; thread 2 acquires and reads -/
example : WF ([Ev.acq 1 0] ++ Ev.acc 1 7 true :: ([Ev.rel 1 0, Ev.acq 2 0] ++ Ev.acc 2 7 false :: [Ev.rel 2 0])) ∧
    HoldsAfter [Ev.acq 1 0] 1 0 ∧ HoldsAfter ([Ev.acq 1 0] ++ Ev.acc 1 7 true :: [Ev.rel 1 0, Ev.acq 2 0]) 2 0 := by
  refine ⟨by decide, ⟨_, rfl, by decide⟩, ⟨_, rfl, by decide⟩⟩

end TR.C16
