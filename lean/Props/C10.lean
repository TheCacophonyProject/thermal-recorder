import Generated.Facts
import Proofs.FSC10

/-!
# C10 — only complete recordings ever carry a `.cptv` name; start-up clean-up after a crash at any
point leaves complete recordings only

Model: `TR.FS` (the system calls of go-cptv's FileWriter driven by `CPTVFileRecorder`, the directory
monitor `Dir`, the glob matcher).  A crash point is any prefix of the sequence of system calls.
-/
namespace TR.C10
open TR.FS

/-- every crash point along a valid operation sequence, from any state satisfying the boundary invariant, is safe -/
theorem crash_safe {opn used : List Nat} {ops : List Op} (h : ValidOps opn used ops) (d : Dir)
    (hb : Boundary opn used d) (pre : List Sys) (hp : pre <+: ops.flatMap Op.steps) : Safe (d.run pre) :=
  valid_prefix_good h hb (fun _ _ => trivial) (fun _ _ => trivial) hp

/-- (i) at EVERY crash point every `.cptv` name is a complete recording that was never written in place -/
theorem c10_every_crash_point_ok (ops : List Op) (h : ValidOps [] [] ops) (pre : List Sys)
    (hp : pre <+: ops.flatMap Op.steps) : (Dir.run {} pre).ok = true :=
  (crash_safe h {} boundary_init pre hp).ok

/-- (ii) after start-up clean-up of ANY crash state only complete `.cptv` files remain -/
theorem c10_cleanup_leaves_only_complete (ops : List Op) (h : ValidOps [] [] ops) (pre : List Sys)
    (hp : pre <+: ops.flatMap Op.steps) :
    ∀ p ∈ (Dir.run {} pre).cleanup.files, p.1.kind = Kind.F ∧ p.2 = Status.complete :=
  (crash_safe h {} boundary_init pre hp).cleanup

/-- a time stamp (`20060102.150405.000`) is a string of digits and dots -/
def IsStamp (s : String) : Prop := ∀ c ∈ s.toList, c.isDigit = true ∨ c = '.'

/-- the pattern built from the constant in the source is `*.cptv.temp*` -/
theorem pattern_eq :
    ("*." ++ Facts.cptvTempExt ++ "*").toList = '*' :: (tempLit ++ ['*']) := by decide +kernel

theorem cleanup_removes_T (stamp : String) :
    removedByCleanup ("*." ++ Facts.cptvTempExt ++ "*") stamp .T = true := by
  unfold removedByCleanup fileName
  rw [pattern_eq, String.toList_append, show (suffixOf .T).toList = tempLit from String.toList_ofList]
  exact glob_of_infix _ _ (List.suffix_append _ _).isInfix

theorem cleanup_removes_S (stamp : String) :
    removedByCleanup ("*." ++ Facts.cptvTempExt ++ "*") stamp .S = true := by
  unfold removedByCleanup fileName
  rw [pattern_eq, String.toList_append, show (suffixOf .S).toList = tempLit ++ ['.', 't', 'm', 'p'] from String.toList_ofList]
  exact glob_of_infix _ _ (List.infix_append' ..)

/-- a digits-and-dots stamp has no `e`, `.cptv` has none, and `.cptv.temp` has one -/
theorem cleanup_keeps_F (stamp : String) (h : IsStamp stamp) :
    removedByCleanup ("*." ++ Facts.cptvTempExt ++ "*") stamp .F = false := by
  unfold removedByCleanup fileName
  rw [pattern_eq, String.toList_append, Bool.eq_false_iff, Ne, glob_star_lit_star_iff _ tempLit_nostar]
  intro hi
  rcases List.mem_append.1 (hi.subset (show 'e' ∈ tempLit by decide)) with he | he
  · exact (h 'e' he).elim (fun h1 => absurd h1 (by decide)) (fun h1 => absurd h1 (by decide))
  · exact absurd he (by decide)

/-! ## Facts from the source (re-extracted by tools/gofacts at every check) -/

/-- the temp extension, the clean-up glob `"*." + cptvTempExt + "*"`, the temp-name layout (a digits-and-dots
stamp followed by `.cptv.temp`), the final name = temp name without `.temp`, Close before rename in
`StopRecording`, and the deferred `Stop()` in `handleConn` -/
theorem c10_source_facts :
    Facts.cptvTempExt = "cptv.temp" ∧
    Facts.cleanupGlobExpr = "\"*.\" + cptvTempExt + \"*\"" ∧
    Facts.tempNameLayoutExpr = "\"20060102.150405.000.\" + cptvTempExt" ∧
    Facts.finalNameRegex = "(.+)\\.temp$" ∧
    Facts.stopRecordingOrder = "fw.writer.Close;renameTempRecording" ∧
    Facts.handleConnDefer = "cptvRecorder.Stop()" := ⟨rfl, rfl, rfl, rfl, rfl, rfl⟩

/-- two interleaved recordings; 0 is stopped, 1 is left open -/
private def exOps : List Op := [.start 0, .write 0, .start 1, .write 1, .write 0, .stop 0, .write 1]

example : ValidOps [] [] exOps :=
  .start (by decide) <| .write (by decide) <| .start (by decide) <| .write (by decide) <|
    .write (by decide) <| .stop (by decide) <| .write (by decide) .nil

/-- the crash state: one complete `.cptv`, and `T`, `S` of the open recording with partial data -/
example : (Dir.run {} (exOps.flatMap Op.steps)).files =
    [(⟨0, .F⟩, .complete), (⟨1, .T⟩, .partialData), (⟨1, .S⟩, .partialData)] := by decide +kernel

example : (Dir.run {} (exOps.flatMap Op.steps)).ok = true := by decide +kernel

/-- clean-up leaves only the complete recording -/
example : (Dir.run {} (exOps.flatMap Op.steps)).cleanup.files = [(⟨0, .F⟩, .complete)] := by decide +kernel

/-- a crash in the middle of `stop 0` (after `unlink S`, before the rename): no `.cptv` yet -/
example : (Dir.run {} ((exOps.flatMap Op.steps).take 14)).files =
    [(⟨1, .T⟩, .partialData), (⟨1, .S⟩, .partialData), (⟨0, .T⟩, .partialData)] := by decide +kernel

/-- a start that fails while the header is written leaves a partial `T` (no `S`, no `.cptv`); the next start
uses a fresh name and completes; clean-up removes the debris -/
private def exFail : List Op := [.startFail 0, .start 1, .write 1, .stop 1]
example : ValidOps [] [] exFail :=
  .startFail (by decide) <| .start (by decide) <| .write (by decide) <| .stop (by decide) .nil
example : (Dir.run {} (exFail.flatMap Op.steps)).files = [(⟨1, .F⟩, .complete), (⟨0, .T⟩, .partialData)] := by decide +kernel
example : (Dir.run {} (exFail.flatMap Op.steps)).cleanup.files = [(⟨1, .F⟩, .complete)] := by decide +kernel

/-- the monitor rejects writing under the final name … -/
example : (Dir.run {} [.creat ⟨0, .F⟩]).ok = false := by decide +kernel

/-- … renaming before the compressed stream is closed … -/
example : (Dir.run {} [.creat ⟨0, .T⟩, .rename ⟨0, .T⟩ ⟨0, .F⟩]).ok = false := by decide +kernel

/-- … writing to `T` between close and rename … -/
example : (Dir.run {} [.creat ⟨0, .T⟩, .close ⟨0, .T⟩, .write ⟨0, .T⟩, .rename ⟨0, .T⟩ ⟨0, .F⟩]).ok = false := by
  decide +kernel

/-- … and renaming onto an existing final name (time-stamp collision) -/
example : (Dir.run {} (stopSteps 0 ++ startSteps 0 ++ stopSteps 0)).ok = false := by decide +kernel

/-- without the trailing `*` in the pattern the scratch file `S` would survive clean-up -/
example : removedByCleanup "*.cptv.temp" "20260927.120000.000" .S = false := by
  rw [Bool.eq_false_iff]
  intro h
  have := glob_star_lit_suffix tempLit tempLit_nostar _
    (by simpa [removedByCleanup, show "*.cptv.temp".toList = '*' :: tempLit from String.toList_ofList] using h)
  revert this
  simp only [fileName, suffixOf, String.toList_append, String.reduceToList]
  decide +kernel

example : IsStamp "20260927.120000.000" := by unfold IsStamp; decide +kernel

end TR.C10
