import Proofs.SocketC14
/-!
# C14 — the camera socket: header framing and frame alignment

The recorder parses the camera header consuming nothing beyond the blank line that ends it, then
delivers every fixed-size frame exactly once and in order, treats each 5-byte `clear` marker
between frames as a reset, and never loses frame alignment; a header cut short by the connection
closing yields an error rather than a partial description.

Model: `TR.Socket` (`readHeader`, `parseFrames` over the connection's bytes as one flat list).

Quantifiers.
* Header: every list of header lines (each: no newline inside, newline at the end, not blank),
  every blank line (any number of spaces, then newline), every continuation `rest` of the stream.
* Frames: every frame size `N ≥ 5`, every list of items in which each frame has exactly `N` bytes
  and does not begin with the five bytes `clear`, every fuel larger than the number of items.

Why the side conditions are there (each one is shown necessary by an `example` below):
* `N ≥ 5`: the loop probes 5 bytes before deciding; a camera with frames shorter than the probe
  cannot be served by this loop at all.
* a frame must not begin with `clear`: in the wire format itself such a frame is
  indistinguishable from a marker followed by other bytes.
* fuel: `parseFrames` is structurally recursive on a bound for the number of loop iterations;
  one iteration per item plus the final one that sees the end of the stream.  (For
  `c14_frames_truncated` the bound `items.length < fuel` would be enough — that is what the proof
  uses; the statement asks for one more.)
-/
namespace TR.C14
open TR.Socket

/-- a header line as the camera daemon's YAML encoder emits it: no newline inside, ends with one,
not blank -/
def IsHeaderLine (l : List Nat) : Prop :=
  ∃ body, l = body ++ [NL] ∧ NL ∉ body ∧ isBlank l = false

/-- the line that ends the header: spaces then newline -/
def IsBlankLine (l : List Nat) : Prop := ∃ k, l = List.replicate k SP ++ [NL]

/-- (1) the header round-trips and NOTHING beyond the blank line is consumed -/
theorem c14_header_exact (lines : List (List Nat)) (blank rest : List Nat)
    (hl : ∀ l ∈ lines, IsHeaderLine l) (hb : IsBlankLine blank) :
    readHeader (lines.flatten ++ blank ++ rest) = some (lines.flatten, rest) := by
  obtain ⟨k, rfl⟩ := hb
  exact readHeader_exact lines k rest hl

/-- (2) a header cut short anywhere (any proper prefix of header text + blank line) is an error -/
theorem c14_header_truncated (lines : List (List Nat)) (blank : List Nat)
    (hl : ∀ l ∈ lines, IsHeaderLine l) (hb : IsBlankLine blank) (pre : List Nat)
    (hp : pre <+: lines.flatten ++ blank) (hne : pre ≠ lines.flatten ++ blank) :
    readHeader pre = none := by
  obtain ⟨k, rfl⟩ := hb
  exact readHeader_truncated lines k hl pre hp hne

/-- items a camera can send with frame size N: frames are exactly N bytes and do not begin with
the marker (a frame beginning with the bytes "clear" is indistinguishable from a marker in the
wire format itself) -/
def ValidItem (N : Nat) : Item → Prop
  | .frame b => b.length = N ∧ b.take 5 ≠ clearMarker
  | .clear => True

/-- (3) every frame and every marker is delivered exactly once, in order (alignment is never
lost) -/
theorem c14_frames_roundtrip (N : Nat) (hN : 5 ≤ N) (items : List Item)
    (hv : ∀ i ∈ items, ValidItem N i) (fuel : Nat) (hf : items.length < fuel) :
    parseFrames N fuel (encode items) = (items, Ending.eofAtBoundary) := by
  obtain ⟨f, rfl⟩ : ∃ f, fuel = items.length + (f + 1) := ⟨fuel - items.length - 1, by omega⟩
  have h := parseFrames_append N hN items (fun b hb => hv _ hb) (f + 1) []
  rw [List.append_nil] at h
  rw [h, parseFrames_nil, List.append_nil]

/-- (4) a stream cut inside an item delivers exactly the complete items before it, then reports
truncation -/
theorem c14_frames_truncated (N : Nat) (hN : 5 ≤ N) (items : List Item)
    (hv : ∀ i ∈ items, ValidItem N i) (last : Item) (hlast : ValidItem N last) (part : List Nat)
    (hp : part <+: encodeItem last) (hne : part ≠ []) (hne' : part ≠ encodeItem last)
    (fuel : Nat) (hf : items.length + 1 < fuel) :
    parseFrames N fuel (encode items ++ part) = (items, Ending.truncated) := by
  obtain ⟨f, rfl⟩ : ∃ f, fuel = items.length + (f + 1) := ⟨fuel - items.length - 1, by omega⟩
  have h := parseFrames_append N hN items (fun b hb => hv _ hb) (f + 1) part
  have h' := parseFrames_partial N last (fun b e => by subst e; exact hlast) part hp hne hne' f
  rw [h, h', List.append_nil]

/-- the header of the examples, "a: 1\n" "b\n", consists of header lines -/
theorem exLines_ok : ∀ l ∈ [[97, 58, 32, 49, 10], [98, 10]], IsHeaderLine l := by
  intro l hl
  simp only [List.mem_cons, List.not_mem_nil, or_false] at hl
  rcases hl with rfl | rfl
  · exact ⟨[97, 58, 32, 49], rfl, by decide, by decide⟩
  · exact ⟨[98], rfl, by decide, by decide⟩

/-- the hypotheses of (1) are satisfiable: header "a: 1\n" "b\n", blank line "  \n", and the
first frame bytes left untouched -/
example :
    readHeader ([97, 58, 32, 49, 10, 98, 10] ++ [32, 32, 10] ++ [99, 108, 7])
      = some ([97, 58, 32, 49, 10, 98, 10], [99, 108, 7]) :=
  c14_header_exact [[97, 58, 32, 49, 10], [98, 10]] [32, 32, 10] [99, 108, 7] exLines_ok ⟨2, rfl⟩

/-- the hypotheses of (2) are satisfiable: the same header cut at a line boundary, and cut
inside the blank line -/
example : readHeader [97, 58, 32, 49, 10] = none ∧ readHeader [97, 58, 32, 49, 10, 98, 10, 32] = none := by
  constructor
  · exact c14_header_truncated _ [32, 32, 10] exLines_ok ⟨2, rfl⟩ _ ⟨[98, 10, 32, 32, 10], rfl⟩ (by decide)
  · exact c14_header_truncated _ [32, 32, 10] exLines_ok ⟨2, rfl⟩ _ ⟨[32, 10], rfl⟩ (by decide)

/-- a blank line is not a header line and a header line is not a blank line, so the two kinds of
line in (1)/(2) cannot be confused -/
example (l : List Nat) (h : IsHeaderLine l) : ¬ IsBlankLine l := by
  rintro ⟨k, rfl⟩
  obtain ⟨_, _, _, hb⟩ := h
  rw [isBlank_blank] at hb
  exact absurd hb (by decide)

/-- (3) and (4) on a concrete stream with frame size 6: frame, marker, marker, frame — all four
delivered in order; cut two bytes into a fifth item the four are still delivered and the end is
`truncated`; a frame that merely *contains* "clear" later than its first byte is a frame -/
example :
    parseFrames 6 5 (encode [.frame [1, 2, 3, 4, 5, 6], .clear, .clear, .frame [0, 99, 108, 101, 97, 114]])
      = ([.frame [1, 2, 3, 4, 5, 6], .clear, .clear, .frame [0, 99, 108, 101, 97, 114]],
         Ending.eofAtBoundary) ∧
    parseFrames 6 6 (encode [.frame [1, 2, 3, 4, 5, 6], .clear, .clear, .frame [0, 99, 108, 101, 97, 114]]
        ++ [99, 108])
      = ([.frame [1, 2, 3, 4, 5, 6], .clear, .clear, .frame [0, 99, 108, 101, 97, 114]],
         Ending.truncated) ∧
    parseFrames 6 6 (encode [.frame [1, 2, 3, 4, 5, 6]] ++ [9, 9, 9, 9, 9])
      = ([.frame [1, 2, 3, 4, 5, 6]], Ending.truncated) := by
  decide +kernel

/-- the side conditions are necessary.
`ValidItem`: a 6-byte frame beginning with "clear" is read as a marker and alignment is lost.
`5 ≤ N`: with 3-byte frames a single frame is reported as truncated.
fuel: with fuel equal to the number of items the loop stops before seeing the end of stream. -/
example :
    parseFrames 6 3 (encode [.frame [99, 108, 101, 97, 114, 7]])
      = ([.clear], Ending.truncated) ∧
    parseFrames 3 2 (encode [.frame [1, 2, 3]]) = ([], Ending.truncated) ∧
    parseFrames 6 1 (encode [.frame [1, 2, 3, 4, 5, 6]])
      = ([.frame [1, 2, 3, 4, 5, 6]], Ending.truncated) := by
  decide +kernel

end TR.C14
