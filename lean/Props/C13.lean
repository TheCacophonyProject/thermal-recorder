import Proofs.ProcC12
/-!
# C13 (processor part) — bad frames are never recorded or buffered and end the recording cleanly

Quantifier: every configuration with ring capacity ≥ 1, every event list (valid / bad frames,
resets, test requests) with every fault placement.  `monC13` checks, per event: no sink is ever
handed the content a rejected frame left in the ring slot (id `garbage`), a bad frame produces no
write on any sink and no start on the motion sink, and a motion recording open at a bad frame is
stopped in that same step.

Hypothesis `hlen : evs.length < garbage`: frame ids are accepted-frame indices and the
monitor reserves the id `garbage = 4000000000` as the sentinel for rejected content, so the
statement is only meaningful while fewer than `garbage` frames have been accepted.  Without the
bound the statement is false for the model — `TR.c13_needs_bound` (Proofs.ProcC12) shows the
run of `garbage + 1` plain frames with the continuous recorder on is flagged, because the frame
whose index happens to be `garbage` is written.  (`TR.c13_bounded` proves the slightly stronger
`evs.length ≤ garbage` version.)
-/
namespace TR.C13

theorem c13_bad_frames (c : PCfg) (hK : 0 < c.K) (evs : List Ev) (hlen : evs.length < garbage) :
    monC13 (PState.trace c (PState.init c) evs) = [] :=
  c13_bounded c hK evs (Nat.le_of_lt hlen)

/-- non-vacuity: the monitor rejects a write during a bad frame, a recording left open across a
bad frame, and a write of the rejected content; and in a concrete run of the model a bad frame
arriving during a recording does stop it (and the continuous recorder) without any write -/
example :
    monC13 [⟨.bad {}, [.call .const (.write 3) true]⟩] ≠ [] ∧
    monC13 [⟨.frame true {}, [.call .motion .start true]⟩, ⟨.bad {}, []⟩] ≠ [] ∧
    monC13 [⟨.frame true {}, [.call .motion (.write garbage) true]⟩] ≠ [] ∧
    (let c : PCfg := ⟨3, 5, 9, 1, true, 20⟩
     (PState.trace c (PState.init c) [.frame true {}, .bad {}]).map (·.obs) =
       [[.md, .call .motion .can true, .call .motion .start true, .rs, .call .motion (.write 0) true,
         .call .const .start true, .call .const (.write 0) true],
        [.re, .call .motion .stop true, .call .const .stop true]]) := by
  decide +kernel

end TR.C13
