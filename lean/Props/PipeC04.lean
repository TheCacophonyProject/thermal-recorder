import Props.C01Spec
import Props.C04Spec
import Proofs.PipeC04
/-!
# C04 at pipeline level, with the window / disk gates changing while the camera streams

`Props.C01Spec.pipe_files_are_recordings` / `pipe_c01` relate the composed pipeline (`TR.Pipeline`: socket
items → parser → detector → processor → abstract files) to the processor trace it induces for a FIXED
configuration.  In the daemon the recording window opens and closes and disk space comes and goes while
frames arrive; the end-to-end harness models this by running every item with a configuration whose
`windowOpen` / `diskOk` have the value of that moment.  Here (definitions in `Proofs.PipeLemmas`, `Proofs.PipeSim`,
`Proofs.PipeC04`):

* `GOp` — one step of the daemon: the two gates as they are at that moment and a `PipeOp` (a socket item or a
  test-recording request); `withGates c g` — `c` with those gates; `Pipe.gop c p g = Pipe.op (withGates c g) p
  g.op`; `runG F c gs` — the pipeline after the history `gs`, started from `Pipe.init F c`;
* `motionStarts p` — the number of motion files started so far;
* `parseItem c bytes` — the parser's verdict on a socket frame (the expression inside `Pipe.item`);
  `verdict c p pix tel` — the detector's verdict on the accepted frame in pipeline state `p`;
* `Pipe.evOf c p g` — the processor event the step induces (`evOf_cases`: a test request, a reset, a bad frame
  or a frame with the detector's verdict; its fault record is `gfaults g = { win := g.windowOpen, can :=
  g.diskOk }`, nothing else fails); `evsG F c gs` — the events of a whole history (`evsG_getElem`: the `i`-th
  is the event induced by `gs[i]` in the state `runG F c (gs.take i)`).

Quantifier of every theorem of the first part: every `FloatOps`, every configuration with ring capacity ≥ 1 and
the throttle OFF, every history `gs` of gate values / socket items / test requests, every next step `g`.

* `pipe_gates_files_are_recordings` — the motion files ARE the recordings of the processor trace of `evsG`,
  the processor state is the model's state after `evsG`, the trace obeys `C04Spec.StartRule`;
  `pipe_gates_c01` — hence the files keep the shape of `pipe_c01` under changing gates;
* `pipe_no_start_outside_window` — a step that starts a motion file has both gates open and is a socket frame
  the parser accepts;
* `pipe_at_most_one_start` — a step starts at most one motion file (and removes none);
* `pipe_start_iff` — the "iff" of C04: on an accepted frame a motion file starts iff the processor is not
  recording, the detector reports motion, the run of motion frames has reached `trig`, and both gates are open;
* `pipe_refusal_retries` — a start refused by a gate does not reset the run: the next motion frame with both
  gates open starts the file (`pipe_refusal_retries_later`: also with test requests / bad frames / `clear`
  markers in between).

With the throttle ON the statement "a step that starts a motion file has both gates open" is FALSE when
`c.minLenFrames = 0` (counterexample at the end: after the throttle has cut a recording that began while the
window was open, the restart path of its `WriteFrame` opens an empty base file on every further frame of that
recording, whatever the gates are by then).  For `0 < c.minLenFrames` it is proved:
`pipe_thr_no_start_outside_window`, together with `pipe_thr_at_most_one_start` and `pipe_thr_start_only_if` (the
"only if" half of `pipe_start_iff`; the "if" half fails by design — the throttle suppresses starts).

Non-vacuity (by evaluation, on the `Tiny` pipeline of `Proofs.PipeLemmas`): a history in which the window is closed
during the first motion frames and opens later; the same with the disk check; the throttle counterexample.
-/
namespace TR.PipeC04
open TR TR.C01Spec

section pipeline
variable {F : FloatOps}

/-! ## the induced events -/

/-- the fault record of an induced event is the two gates of the moment (a test request carries none) -/
theorem evOf_faults (c : PipeCfg) (p : Pipe F) (g : GOp) (h : g.op ≠ .testReq) :
    (Pipe.evOf c p g).faults = { win := g.windowOpen, can := g.diskOk } :=
  (evOfOp_faults (withGates c g) p g.op).resolve_left h

/-- the events of a history, position by position -/
theorem evsG_spec (c : PipeCfg) (gs : List GOp) :
    (evsG F c gs).length = gs.length ∧
    ∀ i (h : i < gs.length), (evsG F c gs)[i]? = some (Pipe.evOf c (runG F c (gs.take i)) gs[i]) := by
  refine ⟨evsG_length c gs, fun i h => ?_⟩
  rw [List.getElem?_eq_getElem (by rw [evsG_length]; exact h), evsG_getElem c gs i h]

/-! ## the files are the recordings of the induced trace -/

/-- **`pipe_files_are_recordings` under changing gates.**  The event list `evsG F c gs` — one event per step,
with the detector's verdict and the gates of that step as its fault record (`evsG_spec`, `evOf_cases`) — takes
the processor model to the pipeline's processor state; its frame events are the accepted frames; the motion
files are exactly the recordings of its trace; and the trace obeys the plain start rule, `StartRule` of `Proofs.C04Spec`. -/
theorem pipe_gates_files_are_recordings (c : PipeCfg) (hK : 0 < c.proc.K) (hthr : c.throttle = false)
    (gs : List GOp) :
    let p := runG F c gs
    let evs := evsG F c gs
    let tr := PState.trace c.proc (PState.init c.proc) evs
    C01.NoWriteFaults evs ∧
    p.proc = PState.after c.proc (PState.init c.proc) evs ∧
    motionFiles p = recordings tr ∧
    (evs.filter Ev.isFrame).length = p.accepted.length ∧
    C04Spec.StartRule c.proc.trig tr := by
  intro p evs tr
  have h := PipeSim.sim_runG (F := F) c hK gs
  exact ⟨fun e he => (h.ev e he).1, h.proc, PipeSim.sim_motionFiles h hthr, h.acc, C04Spec.c04_start_rule c.proc evs⟩

/-- the existential form, as in `pipe_files_are_recordings`: some event list with one event per step, whose
fault records are the gates of the steps -/
theorem pipe_gates_files_are_recordings' (c : PipeCfg) (hK : 0 < c.proc.K) (hthr : c.throttle = false)
    (gs : List GOp) :
    let p := runG F c gs
    ∃ evs : List Ev, evs.length = gs.length ∧
      (∀ i (h : i < gs.length), ∃ e, evs[i]? = some e ∧
        (gs[i].op ≠ .testReq → e.faults = { win := gs[i].windowOpen, can := gs[i].diskOk })) ∧
      C01.NoWriteFaults evs ∧
      p.proc = PState.after c.proc (PState.init c.proc) evs ∧
      motionFiles p = recordings (PState.trace c.proc (PState.init c.proc) evs) ∧
      (evs.filter Ev.isFrame).length = p.accepted.length ∧
      C04Spec.StartRule c.proc.trig (PState.trace c.proc (PState.init c.proc) evs) := by
  intro p
  obtain ⟨h1, h2, h3, h4, h5⟩ := pipe_gates_files_are_recordings (F := F) c hK hthr gs
  obtain ⟨hl, hi⟩ := evsG_spec (F := F) c gs
  exact ⟨evsG F c gs, hl, fun i h => ⟨_, hi i h, evOf_faults c _ _⟩, h1, h2, h3, h4, h5⟩

/-- **C01 at pipeline level under changing gates** (throttle off): each motion file is a contiguous ascending
run of accepted-frame ids, over all motion files (oldest first) the ids strictly increase, and every id is the
index of an accepted frame. -/
theorem pipe_gates_c01 (c : PipeCfg) (hK : 0 < c.proc.K) (hthr : c.throttle = false) (gs : List GOp) :
    let p := runG F c gs
    let R := motionFiles p
    (∀ r ∈ R, ∃ a, r = List.range' a r.length) ∧ R.flatten.Pairwise (· < ·) ∧
    ∀ id ∈ R.flatten, id < p.accepted.length := by
  intro p R
  obtain ⟨hw, _, hR, hcount, _⟩ := pipe_gates_files_are_recordings (F := F) c hK hthr gs
  have h := c01_recordings c.proc hK (evsG F c gs) hw
  show (∀ r ∈ motionFiles p, _) ∧ (motionFiles p).flatten.Pairwise (· < ·) ∧ ∀ id ∈ (motionFiles p).flatten, _
  rw [hR, ← hcount]
  exact h

/-! ## one step -/

/-- the number of motion files after a step: the number before plus one if the processor step on the induced
event made a successful `StartRecording` call on the motion sink -/
theorem motionStarts_step (c : PipeCfg) (hK : 0 < c.proc.K) (hthr : c.throttle = false) (gs : List GOp) (g : GOp) :
    let p := runG F c gs
    motionStarts (Pipe.gop c p g) =
      motionStarts p + (if hasStartOk (PState.step c.proc p.proc (Pipe.evOf c p g)).2 = true then 1 else 0) := by
  intro p
  rw [motionStarts_gop c hK hthr p _ g (PipeSim.sim_runG c hK gs), step_startCount_eq]

/-- **a step starts at most one motion file** (and never removes one) -/
theorem pipe_at_most_one_start (c : PipeCfg) (hK : 0 < c.proc.K) (hthr : c.throttle = false)
    (gs : List GOp) (g : GOp) :
    motionStarts (runG F c gs) ≤ motionStarts (Pipe.gop c (runG F c gs) g) ∧
    motionStarts (Pipe.gop c (runG F c gs) g) ≤ motionStarts (runG F c gs) + 1 := by
  have h := motionStarts_step (F := F) c hK hthr gs g
  simp only at h
  rw [h]
  split <;> omega

/-- a processor step that calls `StartRecording` successfully on the motion sink is taken on a socket frame the
parser accepts, with no recording open, motion, the run at `trig`, and both gates of the moment open -/
theorem start_step (c : PipeCfg) (p : Pipe F) (g : GOp)
    (h : 0 < startCount (PState.step c.proc p.proc (Pipe.evOf c p g)).2) :
    ∃ bytes pix tel, g.op = .item (.frame bytes) ∧ parseItem c bytes = .ok pix tel ∧
      p.proc.isRec = false ∧ verdict c p pix tel = true ∧ c.proc.trig ≤ p.proc.triggered + 1 ∧
      g.windowOpen = true ∧ g.diskOk = true := by
  by_cases ha : AcceptedFrame c g
  · obtain ⟨bytes, pix, tel, hop, hparse⟩ := ha
    rw [evOf_ok c p g bytes pix tel hop hparse, startCount_pos_iff, C04.c04_start_iff] at h
    exact ⟨bytes, pix, tel, hop, hparse, h.1, h.2.1, h.2.2.1, h.2.2.2.1, h.2.2.2.2.1⟩
  · rw [step_startCount_nonframe _ _ _ (evOf_not_frame c p g ha)] at h
    exact absurd h (Nat.lt_irrefl _)

/-- **no motion file starts outside the window or against the disk check**: a step that starts a motion file
has both gates open, and it is a socket frame item (not a `clear` marker, not a test request) that the parser
accepts -/
theorem pipe_no_start_outside_window (c : PipeCfg) (hK : 0 < c.proc.K) (hthr : c.throttle = false)
    (gs : List GOp) (g : GOp)
    (h : motionStarts (Pipe.gop c (runG F c gs) g) > motionStarts (runG F c gs)) :
    g.windowOpen = true ∧ g.diskOk = true ∧
    ∃ bytes pix tel, g.op = .item (.frame bytes) ∧ parseItem c bytes = .ok pix tel := by
  have hs := motionStarts_gop c hK hthr (runG F c gs) _ g (PipeSim.sim_runG c hK gs)
  obtain ⟨bytes, pix, tel, hop, hparse, _, _, _, hw, hd⟩ := start_step c (runG F c gs) g (by omega)
  exact ⟨hw, hd, bytes, pix, tel, hop, hparse⟩

/-- **C04 at pipeline level, the "iff"**: at a socket frame the parser accepts, a motion file is started iff
the processor is not recording, the detector reports motion on this frame, the run of consecutive motion
frames (the processor's `triggered` counter, plus this frame) has reached `c.proc.trig`, the window is open
and the disk check passes — whatever the gates were before -/
theorem pipe_start_iff (c : PipeCfg) (hK : 0 < c.proc.K) (hthr : c.throttle = false) (gs : List GOp) (g : GOp)
    (bytes : List Nat) (pix : Frame) (tel : Parse.Telemetry)
    (hop : g.op = .item (.frame bytes)) (hparse : parseItem c bytes = .ok pix tel) :
    let p := runG F c gs
    motionStarts (Pipe.gop c p g) > motionStarts p ↔
      p.proc.isRec = false ∧
      (Det.detect c.det p.det pix
        (Det.affectedBy c.det ((tel.timeOnMs : Int) * 1000000) ((tel.lastFFCMs : Int) * 1000000))).2 = true ∧
      c.proc.trig ≤ p.proc.triggered + 1 ∧ g.windowOpen = true ∧ g.diskOk = true := by
  intro p
  have hs := motionStarts_gop c hK hthr p _ g (PipeSim.sim_runG c hK gs)
  rw [evOf_ok c p g bytes pix tel hop hparse] at hs
  have hi := C04.c04_start_iff c.proc p.proc (verdict c p pix tel) (gfaults g)
  rw [← startCount_pos_iff] at hi
  show motionStarts (Pipe.gop c p g) > motionStarts p ↔
    p.proc.isRec = false ∧ verdict c p pix tel = true ∧ c.proc.trig ≤ p.proc.triggered + 1 ∧
      (gfaults g).win = true ∧ (gfaults g).can = true
  constructor
  · intro h
    obtain ⟨h1, h2, h3, h4, h5, _⟩ := hi.mp (by omega)
    exact ⟨h1, h2, h3, h4, h5⟩
  · rintro ⟨h1, h2, h3, h4, h5⟩
    have := hi.mpr ⟨h1, h2, h3, h4, h5, rfl⟩
    omega

/-- … and then exactly one is started -/
theorem pipe_start_iff_succ (c : PipeCfg) (hK : 0 < c.proc.K) (hthr : c.throttle = false) (gs : List GOp)
    (g : GOp) (bytes : List Nat) (pix : Frame) (tel : Parse.Telemetry)
    (hop : g.op = .item (.frame bytes)) (hparse : parseItem c bytes = .ok pix tel) :
    let p := runG F c gs
    motionStarts (Pipe.gop c p g) = motionStarts p + 1 ↔
      p.proc.isRec = false ∧
      (Det.detect c.det p.det pix
        (Det.affectedBy c.det ((tel.timeOnMs : Int) * 1000000) ((tel.lastFFCMs : Int) * 1000000))).2 = true ∧
      c.proc.trig ≤ p.proc.triggered + 1 ∧ g.windowOpen = true ∧ g.diskOk = true := by
  intro p
  have h1 := pipe_at_most_one_start (F := F) c hK hthr gs g
  have h2 := pipe_start_iff (F := F) c hK hthr gs g bytes pix tel hop hparse
  simp only at h2
  rw [← h2]
  show motionStarts (Pipe.gop c (runG F c gs) g) = motionStarts (runG F c gs) + 1 ↔ _
  omega

/-! ## a refused start is retried -/

/-- steps that are not accepted frames (test requests, `clear` markers, frames the parser rejects), while no
recording is open: still none open, the run of motion frames stands, no motion file is started — whatever
the gates -/
theorem idle_steps (c : PipeCfg) (hK : 0 < c.proc.K) (hthr : c.throttle = false) :
    ∀ (mid : List GOp) (p : Pipe F) (evs : List Ev), PipeSim.Sim c p evs → p.proc.isRec = false →
      (∀ m ∈ mid, ¬ AcceptedFrame c m) →
      (∃ evs', PipeSim.Sim c (mid.foldl (Pipe.gop c) p) evs') ∧
      (mid.foldl (Pipe.gop c) p).proc.isRec = false ∧
      (mid.foldl (Pipe.gop c) p).proc.triggered = p.proc.triggered ∧
      motionStarts (mid.foldl (Pipe.gop c) p) = motionStarts p := by
  intro mid
  induction mid with
  | nil => intro p evs h hrec _; exact ⟨⟨evs, h⟩, hrec, rfl, rfl⟩
  | cons m mid ih =>
    intro p evs h hrec hmid
    have hnf := evOf_not_frame c p m (hmid m (List.mem_cons_self ..))
    have hs := motionStarts_gop c hK hthr p evs m h
    rw [step_startCount_nonframe _ _ _ hnf, Nat.add_zero] at hs
    obtain ⟨hr1, ht1⟩ := step_nonframe_idle c.proc p.proc _ hnf hrec
    rw [← gop_proc c p m] at hr1 ht1
    obtain ⟨a, b, d, e⟩ := ih (Pipe.gop c p m) _ (PipeSim.sim_gop c hK p evs m h) hr1
      (fun x hx => hmid x (List.mem_cons_of_mem _ hx))
    exact ⟨a, b, d.trans ht1, e.trans hs⟩

/-- **a start refused by a gate does not reset the run.**  If at step `g` a start is due (accepted frame, the
processor not recording, motion, `trig` reached) but the window is closed or the disk check fails, no file is
started at `g`; test requests, `clear` markers or rejected frames may follow (`mid`, any gates); and if the next
accepted frame `g'` shows motion again, now with both gates open, a motion file is started at `g'`. -/
theorem pipe_refusal_retries_later (c : PipeCfg) (hK : 0 < c.proc.K) (hthr : c.throttle = false) (gs : List GOp)
    (g g' : GOp) (mid : List GOp) (bytes bytes' : List Nat) (pix pix' : Frame) (tel tel' : Parse.Telemetry)
    (hop : g.op = .item (.frame bytes)) (hparse : parseItem c bytes = .ok pix tel)
    (hmid : ∀ m ∈ mid, ¬ AcceptedFrame c m)
    (hop' : g'.op = .item (.frame bytes')) (hparse' : parseItem c bytes' = .ok pix' tel') :
    let p := runG F c gs
    let p₁ := mid.foldl (Pipe.gop c) (Pipe.gop c p g)
    let p₂ := Pipe.gop c p₁ g'
    p.proc.isRec = false → verdict c p pix tel = true → c.proc.trig ≤ p.proc.triggered + 1 →
    (g.windowOpen = false ∨ g.diskOk = false) →
    verdict c p₁ pix' tel' = true → g'.windowOpen = true → g'.diskOk = true →
    motionStarts p₁ = motionStarts p ∧ motionStarts p₂ = motionStarts p₁ + 1 := by
  intro p p₁ p₂ hrec hv htrig hgate hv' hw' hd'
  have hP := PipeSim.sim_runG (F := F) c hK gs
  -- at `g` the processor gets a motion frame with a gate closed: nothing is started, the run goes on
  have he := evOf_ok c p g bytes pix tel hop hparse
  rw [hv] at he
  have hs₀ := motionStarts_gop c hK hthr p _ g hP
  have hproc₀ := gop_proc c p g
  rw [he] at hs₀ hproc₀
  obtain ⟨k1, k2, k3⟩ := C04.c04_refusal_keeps_run c.proc p.proc (gfaults g) hrec htrig
    (hgate.elim .inl fun h => .inr (.inl h))
  rw [← hproc₀] at k1 k2
  rw [(startCount_eq_zero_iff _).mpr k3, Nat.add_zero] at hs₀
  -- across `mid` nothing moves
  obtain ⟨⟨evs₁, hP₁⟩, m2, m3, m4⟩ :=
    idle_steps c hK hthr mid (Pipe.gop c p g) _ (PipeSim.sim_gop c hK p _ g hP) k2 hmid
  -- at `g'` the five conditions of `c04_start_iff` are met
  have hs₂ := motionStarts_gop c hK hthr p₁ evs₁ g' hP₁
  have he' := evOf_ok c p₁ g' bytes' pix' tel' hop' hparse'
  rw [hv'] at he'
  have hyes : hasStartOk (PState.step c.proc p₁.proc (.frame true (gfaults g'))).2 = true :=
    (C04.c04_start_iff c.proc p₁.proc true (gfaults g')).mpr
      ⟨m2, rfl, by rw [show p₁.proc.triggered = _ from m3, k1]; omega, hw', hd', rfl⟩
  rw [he', step_startCount_eq, hyes] at hs₂
  exact ⟨(show motionStarts p₁ = _ from m4).trans hs₀, hs₂⟩

/-- … in particular when `g'` is the very next step -/
theorem pipe_refusal_retries (c : PipeCfg) (hK : 0 < c.proc.K) (hthr : c.throttle = false) (gs : List GOp)
    (g g' : GOp) (bytes bytes' : List Nat) (pix pix' : Frame) (tel tel' : Parse.Telemetry)
    (hop : g.op = .item (.frame bytes)) (hparse : parseItem c bytes = .ok pix tel)
    (hop' : g'.op = .item (.frame bytes')) (hparse' : parseItem c bytes' = .ok pix' tel') :
    let p := runG F c gs
    let p₁ := Pipe.gop c p g
    let p₂ := Pipe.gop c p₁ g'
    p.proc.isRec = false → verdict c p pix tel = true → c.proc.trig ≤ p.proc.triggered + 1 →
    (g.windowOpen = false ∨ g.diskOk = false) →
    verdict c p₁ pix' tel' = true → g'.windowOpen = true → g'.diskOk = true →
    motionStarts p₁ = motionStarts p ∧ motionStarts p₂ = motionStarts p₁ + 1 :=
  pipe_refusal_retries_later c hK hthr gs g g' [] bytes bytes' pix pix' tel tel' hop hparse
    (fun _ h => nomatch h) hop' hparse'

end pipeline

/-! ## throttle on -/

section throttled
variable {F : FloatOps}

/-- **throttle on, `minLenFrames ≥ 1`: a step starts at most one motion file** -/
theorem pipe_thr_at_most_one_start (c : PipeCfg) (hK : 0 < c.proc.K) (hthr : c.throttle = true)
    (hM : 0 < c.minLenFrames) (gs : List GOp) (g : GOp) :
    motionStarts (Pipe.gop c (runG F c gs) g) ≤ motionStarts (runG F c gs) + 1 :=
  Nat.le_trans (motionStarts_gop_thr c hK hthr hM _ _ g (PipeSim.sim_runG c hK gs))
    (Nat.add_le_add_left (step_startCount_le _ _ _) _)

/-- **throttle on, `minLenFrames ≥ 1`: what a step that starts a motion file looks like** — both gates are open,
it is a socket frame the parser accepts, the processor was not recording, the detector reports motion and the
run of motion frames has reached `trig` (only the "only if" half of `pipe_start_iff`: the throttle may suppress
the start when the bucket holds fewer than `minLenFrames` tokens) -/
theorem pipe_thr_start_only_if (c : PipeCfg) (hK : 0 < c.proc.K) (hthr : c.throttle = true)
    (hM : 0 < c.minLenFrames) (gs : List GOp) (g : GOp)
    (h : motionStarts (Pipe.gop c (runG F c gs) g) > motionStarts (runG F c gs)) :
    g.windowOpen = true ∧ g.diskOk = true ∧
    ∃ bytes pix tel, g.op = .item (.frame bytes) ∧ parseItem c bytes = .ok pix tel ∧
      (runG F c gs).proc.isRec = false ∧ verdict c (runG F c gs) pix tel = true ∧
      c.proc.trig ≤ (runG F c gs).proc.triggered + 1 := by
  have hs := motionStarts_gop_thr c hK hthr hM (runG F c gs) _ g (PipeSim.sim_runG c hK gs)
  obtain ⟨bytes, pix, tel, hop, hparse, h1, h2, h3, hw, hd⟩ := start_step c (runG F c gs) g (by omega)
  exact ⟨hw, hd, bytes, pix, tel, hop, hparse, h1, h2, h3⟩

/-- **throttle on, `minLenFrames ≥ 1`: no motion file starts outside the window or against the disk check** -/
theorem pipe_thr_no_start_outside_window (c : PipeCfg) (hK : 0 < c.proc.K) (hthr : c.throttle = true)
    (hM : 0 < c.minLenFrames) (gs : List GOp) (g : GOp)
    (h : motionStarts (Pipe.gop c (runG F c gs) g) > motionStarts (runG F c gs)) :
    g.windowOpen = true ∧ g.diskOk = true ∧
    ∃ bytes pix tel, g.op = .item (.frame bytes) ∧ parseItem c bytes = .ok pix tel := by
  obtain ⟨h1, h2, bytes, pix, tel, h3, h4, _⟩ := pipe_thr_start_only_if c hK hthr hM gs g h
  exact ⟨h1, h2, bytes, pix, tel, h3, h4⟩

end throttled

/-! ## non-vacuity -/

section examples
open TR.PipeLemmas.Tiny

/-- a socket item with the gates of the moment -/
private def it (window disk : Bool) (i : Socket.Item) : GOp := ⟨window, disk, .item i⟩

/-- the `Tiny` pipeline of `Proofs.PipeLemmas` (`trig = 1`, 3-slot ring, one-diff detection: every change of scene is
motion).  The window is open for the first frame, closed for the next three — of which the last two show
motion —, then open again. -/
private def hist : List GOp :=
  [it true true cold, it false true cold, it false true hot, it false true cold, it true true hot,
   it true true cold]

/-- the induced events: (accepted frame?, motion?, window, disk check) -/
example : (evsG F0 c0 hist).map (fun e => (e.isFrame, e.motion, e.faults.win, e.faults.can)) =
    [(true, false, true, true), (true, false, false, true), (true, true, false, true),
     (true, true, false, true), (true, true, true, true), (true, true, true, true)] := by decide +kernel

set_option maxRecDepth 20000 in
/-- no file while the window is closed although the run of motion frames grows; one file, started at the first
motion frame after the window opens (step 4) -/
example :
    (List.range 7).map (fun i => motionStarts (runG F0 c0 (hist.take i))) = [0, 0, 0, 0, 0, 1, 1] ∧
    (List.range 7).map (fun i => ((runG F0 c0 (hist.take i)).proc.isRec, (runG F0 c0 (hist.take i)).proc.triggered)) =
      [(false, 0), (false, 0), (false, 0), (false, 1), (false, 2), (true, 3), (true, 4)] := by decide +kernel

set_option maxRecDepth 20000 in
/-- … and it begins with frames 2 and 3, the pre-trigger frames that arrived while the window was closed -/
example : motionFiles (runG F0 c0 hist) = [[2, 3, 4, 5]] := by decide +kernel

set_option maxRecDepth 20000 in
/-- the same with the disk check failing instead (and a test request and a rejected frame in between, which do
not reset the run): the file starts when the check passes again -/
example :
    let h : List GOp := [it true true cold, it true false hot, ⟨true, false, .testReq⟩, it true false badf,
      it true true cold, it true true hot]
    (List.range 7).map (fun i => motionStarts (runG F0 c0 (h.take i))) = [0, 0, 0, 0, 0, 1, 1] ∧
    motionFiles (runG F0 c0 h) = [[0, 1, 2, 3]] := by decide +kernel

/-- the throttled configuration of the counterexample: a two-frame bucket and `minLenFrames = 0` -/
private def cT : PipeCfg := { c0 with throttle := true, bucketFrames := 2, minLenFrames := 0 }

set_option maxRecDepth 20000 in
/-- **`pipe_thr_no_start_outside_window` is FALSE for `minLenFrames = 0`.**  A recording starts at step 1 (gates
open), the bucket is empty after two frames and the throttle cuts it at step 2; the processor keeps recording,
and at steps 3 and 4 — window closed, at step 4 also the disk check failing — the restart path of the throttle's
`WriteFrame` opens a base file and cuts it at once: two more (empty) motion files. -/
example :
    let h : List GOp := [it true true cold, it true true hot, it false true cold, it false true hot,
      it false false cold]
    cT.throttle = true ∧ 0 < cT.proc.K ∧ cT.minLenFrames = 0 ∧
    (List.range 6).map (fun i => motionStarts (runG F0 cT (h.take i))) = [0, 0, 1, 1, 2, 3] ∧
    motionFiles (runG F0 cT h) = [[0, 1], [], []] := by decide +kernel

set_option maxRecDepth 20000 in
/-- with `minLenFrames = 1` the same history starts one file only -/
example :
    let h : List GOp := [it true true cold, it true true hot, it false true cold, it false true hot,
      it false false cold]
    (List.range 6).map (fun i => motionStarts (runG F0 { cT with minLenFrames := 1 } (h.take i))) =
      [0, 0, 1, 1, 1, 1] := by decide +kernel

end examples

end TR.PipeC04
