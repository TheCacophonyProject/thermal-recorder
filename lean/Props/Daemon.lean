import TR.Daemon
import Generated.Facts
import Props.C10Glob
/-!
# Start-up of the recorder daemon (C10: "the daemon's start-up clean-up leaves complete recordings only")

`TR.Daemon.startUp` with the pattern built from the regenerated constant is what the `daemon` correspondence stream
predicts for the real `runMain` on directories holding finished, temporary and unrelated files.  For ARBITRARY
directory contents: nothing that contains `.cptv.temp` survives, everything else survives in order, a second start
changes nothing, and a refused configuration leaves the directory alone.
-/
namespace TR.DaemonProps
open TR.Daemon TR.C10Glob

/-- the pattern of the source -/
def pattern : String := "*." ++ Facts.cptvTempExt ++ "*"

/-- exactly: the survivors are the names without `.cptv.temp`, in their original order -/
theorem startUp_eq (dir : List String) :
    startUp pattern true dir = some (dir.filter fun n => !C10Glob.removed n) := rfl

theorem startUp_out {dir out : List String} (h : startUp pattern true dir = some out) :
    out = dir.filter fun n => !C10Glob.removed n :=
  (Option.some.inj ((startUp_eq dir).symm.trans h)).symm

/-- after a start, no surviving name contains `.cptv.temp` -/
theorem startUp_no_temp (dir out : List String) (h : startUp pattern true dir = some out) :
    ∀ n ∈ out, ¬ ".cptv.temp".toList <:+: n.toList := by
  obtain rfl := startUp_out h
  intro n hn
  exact (kept_iff n).1 ((Bool.not_eq_true' _).mp (List.mem_filter.1 hn).2)

/-- every name without `.cptv.temp` survives — in particular every finished recording `<stem>.cptv` whose stem does not
contain `.cptv.temp` (`C10Glob.keeps_F_iff`) and every unrelated file -/
theorem startUp_keeps (dir out : List String) (h : startUp pattern true dir = some out) (n : String)
    (hn : n ∈ dir) (hk : ¬ ".cptv.temp".toList <:+: n.toList) : n ∈ out := by
  obtain rfl := startUp_out h
  exact List.mem_filter.2 ⟨hn, (Bool.not_eq_true' _).mpr ((kept_iff n).2 hk)⟩

/-- survivors are a sublist: the start creates nothing and reorders nothing -/
theorem startUp_sublist (dir out : List String) (h : startUp pattern true dir = some out) : out.Sublist dir := by
  obtain rfl := startUp_out h
  exact List.filter_sublist

/-- a second start right after the first changes nothing (crash loops do not erode the directory) -/
theorem startUp_idempotent (dir out : List String) (h : startUp pattern true dir = some out) :
    startUp pattern true out = some out := by
  obtain rfl := startUp_out h
  simp only [startUp_eq, List.filter_filter, Bool.and_self]

/-- a configuration the daemon refuses (max-secs below min-secs) leaves the directory untouched -/
theorem startUp_refused (dir : List String) :
    startUp pattern false dir = none ∧ oldNamesAfter pattern false dir = dir := ⟨rfl, rfl⟩

/-- non-vacuity: the directory the correspondence stream uses -/
example : startUp "*.cptv.temp*" true
    ["20200101.010101.000.cptv", "20200102.020202.000.cptv.temp", "20200102.020202.000.cptv.temp.tmp", "notes.txt",
     "x.cptv.temporary", "cptv.temp", ".cptv.temp", "a.cptv.tmp", "b.CPTV.TEMP", "c.cptv.tem"] =
    some ["20200101.010101.000.cptv", "notes.txt", "cptv.temp", "a.cptv.tmp", "b.CPTV.TEMP", "c.cptv.tem"] := by
  -- every name is one of the cases `Props.C10Glob` decides; the matcher itself is not run
  have hF : C10Glob.removed "20200101.010101.000.cptv" = false :=
    keeps_F_of_no_e "20200101.010101.000" (by simp only [String.reduceToList]; decide)
  have hT : C10Glob.removed "20200102.020202.000.cptv.temp" = true := removes_T "20200102.020202.000"
  have hS : C10Glob.removed "20200102.020202.000.cptv.temp.tmp" = true := removes_S "20200102.020202.000"
  show startUp pattern true _ = _
  rw [startUp_eq]
  simp only [List.filter_cons, List.filter_nil, hF, hT, hS, keeps_notes, removes_temporary, keeps_no_leading_dot,
    removes_bare, keeps_cptv_tmp, keeps_upper_case, keeps_truncated, Bool.not_true, Bool.not_false, if_true,
    Bool.false_eq_true, if_false]

end TR.DaemonProps
