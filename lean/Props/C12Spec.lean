import Props.C12
import Proofs.C12Spec
/-!
# C12, de-monitored — acceptance by `monC12` IS "every sink sees a well-formed call sequence, no panic"

`Props.C12` states C12 through the executable monitor `monC12` (a fold of the state machine `M12s.obs`).
Here the monitor is taken out of the trusted reading.  The definitions (`Proofs.C12Spec`) do not mention it:

* `allObs tr` — all observations of a trace, in order;
* `callsOf s os` — the calls made on sink `s`, in order, with their outcome;
* `openAfter cs` — a recording is open after the calls `cs`: a fold (successful `start` opens, `stop`
  closes whatever its outcome, nothing else matters), and in words (`openAfter_spec`): some successful
  `start` is followed by no `stop`;
* `WellFormed cs` — for every position: a `write` (successful or not) only when the calls before it leave a
  recording open; a `start` (successful or not) only when they leave none open; `stop` and `can` always.

`monC12_iff`: for EVERY trace (the model's or one recorded from the real code) the monitor reports nothing
iff no observation is a panic and the call sequence of each of the three sinks is `WellFormed`.
`c12_wellformed`: hence the model's traces have that shape, for every configuration with `K ≥ 1`, every
event list and every fault placement.
-/
namespace TR.C12Spec

/-! ## generic: any trace -/

/-- **The C12 monitor accepts exactly the well-formed, panic-free traces.** -/
theorem monC12_iff (tr : List Step) :
    monC12 tr = [] ↔ (Obs.panic ∉ allObs tr ∧ ∀ s : Sink, WellFormed (callsOf s (allObs tr))) := by
  rw [monC12_eq, (fold_monitor _ {}).2, scan_callsOf]
  refine (and_iff_right rfl).trans (and_congr_right fun _ => forall_congr' fun s => ?_)
  rw [wellFormed_iff, wellFormedB]
  cases s <;> rfl

/-- soundness alone: what an accepted trace looks like -/
theorem monC12_sound (tr : List Step) (hacc : monC12 tr = []) :
    Obs.panic ∉ allObs tr ∧ ∀ s : Sink, WellFormed (callsOf s (allObs tr)) :=
  (monC12_iff tr).mp hacc

/-- completeness alone: the monitor raises no false alarm -/
theorem monC12_complete (tr : List Step) (hp : Obs.panic ∉ allObs tr)
    (hw : ∀ s : Sink, WellFormed (callsOf s (allObs tr))) : monC12 tr = [] :=
  (monC12_iff tr).mpr ⟨hp, hw⟩

/-- the call opens a recording -/
def opens : Call × Bool → Bool
  | (.start, true) => true
  | _ => false

/-- the call closes a recording -/
def closes : Call × Bool → Bool
  | (.stop, _) => true
  | _ => false

theorem nextOpen_eq (o : Bool) (c : Call × Bool) : nextOpen o c = ((o || opens c) && !closes c) := by
  obtain ⟨cl, ok⟩ := c
  cases cl <;> cases ok <;> cases o <;> rfl

/-- **`openAfter` in words**: a recording is open after `cs` iff `cs` contains a successful `start` after
which there is no `stop` (successful or not) — the last successful start comes after the last stop -/
theorem openAfter_spec (cs : List (Call × Bool)) :
    openAfter cs = true ↔
      ∃ pre post, cs = pre ++ (Call.start, true) :: post ∧ ∀ ok, (Call.stop, ok) ∉ post := by
  rw [openAfter, latch_false_iff nextOpen opens closes nextOpen_eq]
  constructor
  · rintro ⟨pre, ⟨cl, ok⟩, post, rfl, hs, hn⟩
    cases cl <;> cases ok <;> first | cases hs | skip
    exact ⟨pre, post, rfl, fun ok hm => by cases hn _ (List.mem_cons_of_mem _ hm)⟩
  · rintro ⟨pre, post, rfl, hn⟩
    refine ⟨pre, _, post, rfl, rfl, fun x hx => ?_⟩
    rcases List.mem_cons.mp hx with rfl | hx
    · rfl
    · obtain ⟨cl, ok⟩ := x
      cases cl <;> first | rfl | exact absurd hx (hn ok)

/-- the flag the monitor keeps for sink `s` is `openAfter` of the calls made on `s` (any observations) -/
theorem monitor_flag_is_openAfter (os : List Obs) (s : Sink) :
    (os.foldl M12s.obs {}).get s = openAfter (callsOf s os) := by
  rw [(fold_monitor os {}).1, flags_callsOf]
  cases s <;> rfl

/-- `WellFormed`, spelled out for a write: the calls before it contain a successful start with no stop
in between -/
theorem wellFormed_write {cs : List (Call × Bool)} (hw : WellFormed cs) (i : Nat) (h : i < cs.length)
    (id : Nat) (ok : Bool) (hc : cs[i] = (.write id, ok)) :
    ∃ pre post, cs.take i = pre ++ (Call.start, true) :: post ∧ ∀ ok', (Call.stop, ok') ∉ post := by
  have := hw i h
  rw [hc] at this
  exact (openAfter_spec _).mp this

/-- `WellFormed`, spelled out for a start attempt: every successful start before it is followed by a stop
before it -/
theorem wellFormed_start {cs : List (Call × Bool)} (hw : WellFormed cs) (i : Nat) (h : i < cs.length)
    (ok : Bool) (hc : cs[i] = (.start, ok)) :
    ∀ pre post, cs.take i = pre ++ (Call.start, true) :: post → ∃ ok', (Call.stop, ok') ∈ post := by
  intro pre post he
  have := hw i h
  rw [hc] at this
  apply Classical.byContradiction
  intro hn
  have ho : openAfter (cs.take i) = true :=
    (openAfter_spec _).mpr ⟨pre, post, he, fun ok' hm => hn ⟨ok', hm⟩⟩
  rw [this] at ho
  cases ho

/-! ## the model -/

/-- **C12 as a list specification.**  For every configuration with `K ≥ 1`, every event list and every
fault placement: the model never panics, and on each of the three sinks every `WriteFrame` comes after a
successful `StartRecording` with no `StopRecording` in between, and `StartRecording` is never attempted
while a recording is open. -/
theorem c12_wellformed (c : PCfg) (hK : 0 < c.K) (evs : List Ev) :
    Obs.panic ∉ allObs (PState.trace c (PState.init c) evs) ∧
    ∀ s : Sink, WellFormed (callsOf s (allObs (PState.trace c (PState.init c) evs))) :=
  (monC12_iff _).mp (C12.c12_protocol c hK evs)

/-! ## non-vacuity -/

/-- two recordings on the motion sink (the second after a failed start attempt; a failed write inside the
first; a failed stop followed by a successful one), one on the test sink, nothing on the continuous one -/
private def good : List Step :=
  [⟨.frame true {}, [.md, .call .motion .can true, .call .motion .start true, .rs,
      .call .motion (.write 0) true]⟩,
   ⟨.testReq, []⟩,
   ⟨.frame true {}, [.call .motion (.write 1) false, .call .motion .stop true, .re,
      .call .test .start true, .call .test (.write 1) true]⟩,
   ⟨.frame true {}, [.call .motion .can true, .call .motion .start false]⟩,
   ⟨.frame true {}, [.call .motion .can true, .call .motion .start true, .call .motion (.write 2) true,
      .call .motion (.write 3) true, .call .test (.write 3) true, .call .test .stop false]⟩,
   ⟨.bad {}, [.call .motion .stop false, .call .motion .stop true]⟩]

example : callsOf .motion (allObs good) =
    [(.can, true), (.start, true), (.write 0, true), (.write 1, false), (.stop, true),
     (.can, true), (.start, false), (.can, true), (.start, true), (.write 2, true), (.write 3, true),
     (.stop, false), (.stop, true)] ∧
    callsOf .test (allObs good) = [(.start, true), (.write 1, true), (.write 3, true), (.stop, false)] ∧
    callsOf .const (allObs good) = [] := by decide +kernel

/-- accepted, panic-free and well-formed on every sink -/
example : monC12 good = [] ∧ Obs.panic ∉ allObs good ∧ ∀ s : Sink, WellFormed (callsOf s (allObs good)) := by
  decide +kernel

/-- a write after the stop: rejected, and not well-formed -/
example :
    let tr : List Step :=
      [⟨.frame true {}, [.call .motion .start true, .call .motion (.write 0) true, .call .motion .stop true]⟩,
       ⟨.frame true {}, [.call .motion (.write 1) true]⟩]
    monC12 tr = ["C12:write-outside-recording-motion"] ∧ ¬ WellFormed (callsOf .motion (allObs tr)) ∧
    WellFormed (callsOf .test (allObs tr)) := by decide +kernel

/-- a write after a FAILED start: rejected, and not well-formed (a failed start opens nothing) -/
example :
    let tr : List Step := [⟨.frame true {}, [.call .test .start false, .call .test (.write 0) true]⟩]
    monC12 tr ≠ [] ∧ ¬ WellFormed (callsOf .test (allObs tr)) := by decide +kernel

/-- a start while a recording is open: rejected, and not well-formed — whether or not the second start
succeeds -/
example :
    let tr (ok : Bool) : List Step :=
      [⟨.frame true {}, [.call .const .start true, .call .const (.write 0) true]⟩,
       ⟨.frame true {}, [.call .const .start ok, .call .const (.write 1) true]⟩]
    monC12 (tr true) = ["C12:start-while-open-const"] ∧ ¬ WellFormed (callsOf .const (allObs (tr true))) ∧
    monC12 (tr false) = ["C12:start-while-open-const"] ∧ ¬ WellFormed (callsOf .const (allObs (tr false))) := by
  decide +kernel

/-- a panic: rejected although every sink's calls are well-formed -/
example :
    let tr : List Step := [⟨.frame true {}, [.call .motion .start true, .panic]⟩]
    monC12 tr = ["C12:panic"] ∧ Obs.panic ∈ allObs tr ∧ ∀ s : Sink, WellFormed (callsOf s (allObs tr)) := by
  decide +kernel

/-- sinks are independent: a recording open on one sink does not license a write on another -/
example :
    let tr : List Step := [⟨.frame true {}, [.call .motion .start true, .call .const (.write 0) true]⟩]
    monC12 tr ≠ [] ∧ WellFormed (callsOf .motion (allObs tr)) ∧ ¬ WellFormed (callsOf .const (allObs tr)) := by
  decide +kernel

/-- `openAfter` on small inputs -/
example :
    openAfter [] = false ∧ openAfter [(.start, true)] = true ∧ openAfter [(.start, false)] = false ∧
    openAfter [(.start, true), (.write 0, false), (.can, false)] = true ∧
    openAfter [(.start, true), (.stop, false)] = false ∧
    openAfter [(.start, true), (.stop, true), (.start, true)] = true := by decide +kernel

private def cfg : PCfg := ⟨3, 2, 4, 1, true, 1⟩

set_option maxRecDepth 8000 in
/-- a run of the model (trigger, test request, bad frame, re-trigger): the calls it
makes on the motion and the test sink -/
example :
    let obs := allObs (PState.trace cfg (PState.init cfg)
      [.frame false {}, .testReq, .frame true {}, .bad {}, .frame true {}])
    callsOf .motion obs =
      [(.can, true), (.start, true), (.write 0, true), (.write 1, true), (.stop, true),
       (.can, true), (.start, true), (.write 2, true)] ∧
    callsOf .test obs = [(.start, true), (.write 1, true), (.write 2, true), (.stop, true)] := by
  decide +kernel

end TR.C12Spec
