import Generated.Facts
/-! # Source facts — C07 C09 C15: MotionProcessor.Reset -/
namespace TR.FactsProc
open Facts

/-- C09/C15: a camera reset ends the recording in progress and then restarts the detector unconditionally -/
theorem processor_reset_body : processorResetBody = "mp.stopRecording();mp.motionDetector.Reset(camera)" := rfl

end TR.FactsProc
